/-
  C11 — Forward and inverse wavelet transforms reconstruct exactly.
  Model: VC2/Model/Wavelet.lean (hand-written, generic in the lifting filter; tied to
  picture_encoding.py / picture_decoding.py by the `wt` correspondence, with the real
  LIFTING_FILTERS table exported into VC2.Gen.Tables on every run).  Geometry functions
  (subband_width/height) are the GENERATED ones.
-/
import VC2.Proofs.Wavelet
import VC2.Props.C13
import VC2.Gen.Tables
set_option linter.unusedVariables false
namespace VC2.Props.C11
open VC2 VC2.Gen VC2.Model.Wavelet VC2.Proofs.Wavelet

/-- For *every* lifting stage (any L, D, taps, S, any of the four kinds) and every
    even-length array the analysis lift undoes the synthesis lift, and vice versa. -/
theorem lift_roundtrip (st : Stage) (len : Nat) (f : Vec) (hev : len % 2 = 0) :
    lift st.swapped len (lift st len f) = f ∧ lift st len (lift st.swapped len f) = f :=
  ⟨lift_inverse st len f hev, lift_inverse' st len f hev⟩

/-- … hence for every filter (list of stages) the 1-D analysis and synthesis are inverse. -/
theorem oned_roundtrip_both (flt : Filter) (len : Nat) (f : Vec) (hev : len % 2 = 0) :
    onedSynthesis flt len (onedAnalysis flt len f) = f ∧
    onedAnalysis flt len (onedSynthesis flt len f) = f :=
  ⟨oned_roundtrip flt len f hev, oned_roundtrip' flt len f hev⟩

/-- the accuracy shift `(x << s) + 2^(s-1)) >> s` is lossless -/
theorem shift_lossless (s : Nat) (v : Int) (hs : 0 < s) : (v * 2 ^ s + 2 ^ (s - 1)) / 2 ^ s = v :=
  shift_roundtrip s v hs

/-- `idwt (dwt a) = a` for every pair of filters (vertical, horizontal), every symmetric depth
    `d`, every horizontal-only depth `dho` and every array whose height is a multiple of `2^d`
    and whose width is a multiple of `2^(d+dho)` — arbitrary integer samples. -/
theorem idwt_dwt_identity (fv fho : Filter) (dho d : Nat) (a : Arr)
    (hh : a.h % 2 ^ d = 0) (hw : a.w % 2 ^ (d + dho) = 0) :
    idwt fv fho (dwt fv fho dho d a) = a :=
  idwt_dwt fv fho dho d a hh hw

theorem arr_eq_refl (a : Arr) : a.Eq a := ⟨rfl, rfl, fun _ _ _ _ => rfl⟩

/-- **Whole pipeline**: pad, forward transform, inverse transform, remove padding returns the
    original picture exactly, for every picture of size ≥ 1×1 and any padded size (ph, pw) that
    is a multiple of the transform scale and not smaller than the picture. -/
theorem pad_dwt_idwt_unpad (fv fho : Filter) (dho d : Nat) (a : Arr) (ph pw : Nat)
    (hh1 : 1 ≤ a.h) (hw1 : 1 ≤ a.w) (hph : a.h ≤ ph) (hpw : a.w ≤ pw)
    (hh : ph % 2 ^ d = 0) (hw : pw % 2 ^ (d + dho) = 0) :
    (padRemoval (idwt fv fho (dwt fv fho dho d (padAddition a ph pw))) a.h a.w).Eq a := by
  have e1 : (padAddition a ph pw).h = ph := Nat.max_eq_right hph
  have e2 : (padAddition a ph pw).w = pw := Nat.max_eq_right hpw
  rw [idwt_dwt fv fho dho d _ (by rw [e1]; exact hh) (by rw [e2]; exact hw)]
  exact pad_roundtrip a ph pw hh1 hw1

/-- The padded size the encoder uses (`subband_width/height(top_level)`, GENERATED) does
    satisfy those hypotheses: it is ≥ the component size and a multiple of the scale. -/
theorem encoder_padding_is_admissible (st : St) (c : String) (hc : VC2.Proofs.Slices.CompOk c)
    (g : VC2.Proofs.Slices.GeomOk st) :
    let top := st.dwt_depth + st.dwt_depth_ho + 1
    let pw := subband_width st top c
    let ph := subband_height st top c
    VC2.Proofs.Slices.compW st c ≤ pw ∧ VC2.Proofs.Slices.compH st c ≤ ph ∧
    pw % shl 1 (st.dwt_depth_ho + st.dwt_depth) = 0 ∧ ph % shl 1 st.dwt_depth = 0 := by
  intro top pw ph
  have hd := g.d; have hdho := g.dho
  have ew : VC2.Proofs.Slices.wexp st top = 0 := by
    unfold VC2.Proofs.Slices.wexp VC2.Proofs.Slices.depthW; simp only [top]; split <;> omega
  have eh : VC2.Proofs.Slices.hexp st top = 0 := by
    unfold VC2.Proofs.Slices.hexp VC2.Proofs.Slices.depthW; simp only [top]
    split
    · omega
    · split <;> omega
  have one : shl 1 0 = 1 := by simp [shl]
  have hpw : pw = VC2.Proofs.Slices.padded (VC2.Proofs.Slices.compW st c) (VC2.Proofs.Slices.depthW st) := by
    simp only [pw]; rw [VC2.Proofs.Slices.subband_width_eq st top c hc, ew, one]; simp
  have hph : ph = VC2.Proofs.Slices.padded (VC2.Proofs.Slices.compH st c) st.dwt_depth := by
    simp only [ph]; rw [VC2.Proofs.Slices.subband_height_eq st top c hc, eh, one]; simp
  have a := VC2.Props.C13.padded_least_multiple (VC2.Proofs.Slices.compW st c) (VC2.Proofs.Slices.depthW st)
  have b := VC2.Props.C13.padded_least_multiple (VC2.Proofs.Slices.compH st c) st.dwt_depth
  rw [hpw, hph]
  exact ⟨a.1, b.1, by simpa [VC2.Proofs.Slices.depthW] using a.2.2, b.2.2⟩

/-- **Shapes** of the forward transform's subbands, for a (padded) input of size ph × pw:
    DC band, the `dho` horizontal-only levels (level k+1) and the `d` 2-D levels (level dho+1+k). -/
theorem dwt_shapes (fv fho : Filter) (dho d : Nat) (a : Arr) :
    let c := dwt fv fho dho d a
    c.dc.h = a.h / 2 ^ d ∧ c.dc.w = a.w / 2 ^ d / 2 ^ dho ∧
    c.ho.length = dho ∧ c.full.length = d ∧
    (∀ k (hk : k < c.ho.length), (c.ho[k]).h = a.h / 2 ^ d ∧ (c.ho[k]).w = a.w / 2 ^ d / 2 ^ (dho - k)) ∧
    (∀ k (hk : k < c.full.length), dims3 (c.full[k]) (a.h / 2 ^ (d - k)) (a.w / 2 ^ (d - k))) := by
  intro c
  have f1 := dwtFull_dc_dims fv fho d a
  have f2 := dwtFull_shapes fv fho d a
  have h1 := dwtHo_dc_dims fho dho (dwtFull fv fho d a).1
  have h2 := dwtHo_shapes fho dho (dwtFull fv fho d a).1
  simp only [c, dwt]
  refine ⟨by rw [h1.1, f1.1], by rw [h1.2, f1.2], h2.1, f2.1, ?_, f2.2⟩
  intro k hk
  have := h2.2 k hk
  rw [f1.1, f1.2] at this
  exact this

/-- … and these are exactly the subband dimensions the slice geometry uses (GENERATED
    `subband_width`/`subband_height`), level by level, when the input has the padded size. -/
theorem shapes_match_slice_geometry (st : St) (c : String) (level : Int)
    (dom : VC2.Props.C13.Dom st c level) :
    let pw := VC2.Proofs.Slices.padded (VC2.Proofs.Slices.compW st c) (VC2.Proofs.Slices.depthW st)
    let ph := VC2.Proofs.Slices.padded (VC2.Proofs.Slices.compH st c) st.dwt_depth
    subband_width st level c = pw / 2 ^ (VC2.Proofs.Slices.wexp st level).toNat ∧
    subband_height st level c = ph / 2 ^ (VC2.Proofs.Slices.hexp st level).toNat := by
  intro pw ph
  rw [VC2.Proofs.Slices.subband_width_eq st level c dom.comp,
      VC2.Proofs.Slices.subband_height_eq st level c dom.comp]
  simp [shl, pw, ph]

/-- every filter of the real table has as many taps as its `L` (so no tap lookup can fail) -/
theorem real_filters_wellformed :
    ∀ p ∈ liftingFilters, ∀ s ∈ p.2.stages, s.taps.length = s.L := by decide

/-- non-vacuity: the real table has the seven filters, and a concrete round trip evaluates -/
example : liftingFilters.length = 7 := by decide
example :
    let flt := (liftingFilters[1]!).2
    (List.range 4).map (onedSynthesis flt 4 (onedAnalysis flt 4 ⟨fun i => [5, -7, 11, 2].getD i 0⟩)).get
      = [5, -7, 11, 2] := by decide

end VC2.Props.C11
