/-
  C17 — Constraint-table queries follow set semantics.
  Model: VC2/Model/Constraint.lean (hand-written; tied to constraint_table.py and
  decoder/assertions.py by the `vs`/`ct` correspondence).  Iteration order of Python sets is
  the (arbitrary) list order of the model, so every statement holds for every order.
-/
import VC2.Proofs.Constraint
namespace VC2.Props.C17
open VC2 VC2.Model.Constraint VC2.Proofs.Constraint

/-- the operations a value set undergoes -/
inductive Op
  | addValue (v : Int)
  | addRange (lo hi : Int)
  | unionWith (other : VSet)

def Op.apply (s : VSet) : Op → VSet
  | .addValue v => s.addValue v
  | .addRange lo hi => s.addRange lo hi
  | .unionWith o => s.union o

/-- what an operation contributes -/
def Op.covers (x : Int) : Op → Prop
  | .addValue v => x = v
  | .addRange lo hi => lo ≤ x ∧ x ≤ hi
  | .unionWith o => o.contains x = true

/-- **After any sequence of additions and unions a value set contains exactly the union of
    what it contained and the listed values, inclusive ranges and united sets.** -/
theorem membership_after_ops (ops : List Op) : ∀ (s : VSet) (x : Int),
    (ops.foldl Op.apply s).contains x = true ↔ s.contains x = true ∨ ∃ op ∈ ops, op.covers x := by
  intro s x
  refine foldl_or_iff (P := fun s => s.contains x = true) (fun s op => ?_) ops s
  cases op with
  | addValue v => exact contains_addValue s v x
  | addRange lo hi => exact (contains_addRange s lo hi x).trans (or_congr_right (inRange_iff x (lo, hi)))
  | unionWith o => exact contains_union s o x

/-- a fresh set built by operations contains exactly what was listed -/
theorem membership_of_built_set (ops : List Op) (x : Int) :
    (ops.foldl Op.apply {}).contains x = true ↔ ∃ op ∈ ops, op.covers x := by
  rw [membership_after_ops]; simp [contains_empty]

/-- union (`+`), including the wildcard -/
theorem union_membership (a b : VS) (x : Int) :
    (a.union b).contains x = true ↔ a.contains x = true ∨ b.contains x = true :=
  vs_contains_union a b x

/-- well-formedness (every range has lo ≤ hi) is preserved by the operations -/
theorem wf_preserved (s : VSet) (h : VSet.WF s) :
    (∀ v, VSet.WF (s.addValue v)) ∧ (∀ lo hi, lo ≤ hi → VSet.WF (s.addRange lo hi)) :=
  ⟨fun v => wf_addValue s v h, fun lo hi hr => wf_addRange s lo hi h hr⟩

/-- **disjointness is reported correctly** (ranges well-formed) -/
theorem disjoint_correct (a b : VSet) (ha : VSet.WF a) (hb : VSet.WF b) :
    a.isDisjoint b = true ↔ ¬ ∃ x, a.contains x = true ∧ b.contains x = true :=
  isDisjoint_correct a b ha hb

/-- … and against the wildcard: disjoint exactly when the other set has no value -/
theorem disjoint_with_any (b : VSet) (hb : VSet.WF b) :
    VS.isDisjoint .any (.set b) = true ↔ ¬ ∃ x, b.contains x = true :=
  isEmpty_iff b hb

/-- **For tables without catch-all columns a value is among the allowed values for a key,
    given already-chosen values, exactly when adding it yields an allowed combination.** -/
theorem allowed_values_exact (t : Table) (key : Key) (values : Assign) (v : Int)
    (hnc : NoCatchAll t) :
    (allowedValuesFor t key values).contains v = true ↔ isAllowed t (values ++ [(key, v)]) = true :=
  allowed_values_iff t key values v hnc

/-- **Checking values one at a time (as the validator does) accepts exactly the sequences whose
    every prefix is an allowed combination** (distinct keys), and then records exactly them. -/
theorem incremental_check_exact (t : Table) (hnc : NoCatchAll t) (kvs : List (Key × Int))
    (hnd : (kvs.map (·.1)).Nodup) :
    ((assertSeq t [] kvs).isSome = true ↔
      ∀ n, 0 < n → n ≤ kvs.length → isAllowed t (kvs.take n) = true) ∧
    (∀ r, assertSeq t [] kvs = some r → r = kvs) := by
  constructor
  · have := assertSeq_iff t hnc kvs [] (by simpa using hnd)
    simpa using this
  · intro r h
    have := assertSeq_result t kvs [] r (by simpa using hnd) h
    simpa using this

def _root_.VC2.Model.Constraint.Item.covers (x : Int) : Item → Prop
  | .value v => x = v
  | .range lo hi => lo ≤ x ∧ x ≤ hi
  | .nothing => False

theorem items_fold (is : List Item) : ∀ (s : VSet) (x : Int),
    (is.foldl Item.apply s).contains x = true ↔ s.contains x = true ∨ ∃ it ∈ is, it.covers x := by
  intro s x
  refine foldl_or_iff (P := fun s => s.contains x = true) (fun s it => ?_) is s
  cases it with
  | value v => exact contains_addValue s v x
  | range lo hi => exact (contains_addRange s lo hi x).trans (or_congr_right (inRange_iff x (lo, hi)))
  | nothing => exact (or_iff_left id).symm

/-- **CSV cells**: a cell holds exactly the values and ranges written in it, `any` holds
    everything, a ditto cell holds what the cell to its left holds, an empty cell nothing. -/
theorem csv_cell_semantics (last : VS) (x : Int) :
    (∀ is, (parseCell last (.items is)).contains x = true ↔ ∃ it ∈ is, it.covers x) ∧
    (parseCell last .any).contains x = true ∧
    ((parseCell last .ditto).contains x = true ↔ last.contains x = true) := by
  refine ⟨?_, rfl, ?_⟩
  · intro is
    simp only [parseCell, VS.contains]
    rw [items_fold]; simp [contains_empty]
  · simp only [parseCell]
    rw [vs_contains_union]; simp [VS.contains, contains_empty]

/-- non-vacuity: a concrete table without catch-all columns, and concrete evaluations -/
def exampleTable : Table :=
  [[("level", .set { values := [1] }), ("profile", .set { values := [0, 3] })],
   [("level", .set { ranges := [(2, 4)] }), ("profile", .any)]]
example : NoCatchAll exampleTable := by
  intro c hc; simp [exampleTable] at hc; rcases hc with h | h <;> subst h <;> rfl
example : isAllowed exampleTable [("level", 3), ("profile", 7)] = true ∧
    isAllowed exampleTable [("level", 1), ("profile", 7)] = false ∧
    (assertSeq exampleTable [] [("level", 1), ("profile", 3)]).isSome = true := by decide
example : (({ values := [5] } : VSet).addRange 3 9).contains 5 = true ∧
    (({ ranges := [(1, 2), (6, 7)] } : VSet).addRange 2 6).ranges = [(1, 7)] := by decide

end VC2.Props.C17
