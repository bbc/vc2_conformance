/-
  C10 — concatenated sequences are validated and decoded independently.
  Property theorems only; the model is VC2/Model/Stream.lean (shared with C01), the proofs are in
  VC2/Proofs/Stream.lean (reset to the fresh state at every sequence boundary) and
  VC2/Proofs/StreamShift.lean (only offset differences are observed).
-/
import VC2.Proofs.StreamShift
namespace VC2.Props.C10
open VC2 VC2.Model.SymRe VC2.Model.Stream VC2.Proofs.Stream

/-- **an accepted stream followed by anything**: the verdict is the verdict of the rest validated
    alone and the decoded pictures are the concatenation — for any data-unit lists, any length -/
theorem concat_after_accepted (cfg : Config) (us1 us2 : List DUnit) (h : (validate cfg us1).1 = .ok) :
    validate cfg (us1 ++ us2) = ((validate cfg us2).1, (validate cfg us1).2 ++ (validate cfg us2).2) := by
  have h1 := run_append_ok cfg us1 (VState.fresh 0 []) us2 (fun _ => rfl) h
  have h2 := run_shift cfg (totalLen us1) (run cfg (VState.fresh 0 []) us1).2 us2 (VState.fresh 0 [])
  rw [fresh_shift] at h2
  simp only [List.append_nil, Nat.zero_add] at h2
  simp only [validate]
  rw [h1]
  simpa [VState.fresh] using h2

/-- **a list of individually conformant sequences** is accepted, and outputs exactly the
    concatenation of what each sequence outputs alone -/
theorem concat_all_accepted (cfg : Config) : ∀ (seqs : List (List DUnit)),
    (∀ us ∈ seqs, (validate cfg us).1 = .ok) →
    validate cfg seqs.flatten = (.ok, (seqs.map (fun us => (validate cfg us).2)).flatten) := by
  intro seqs
  induction seqs with
  | nil => intro _; simp [validate, run, VState.fresh]
  | cons us rest ih =>
    intro h
    have h1 := h us List.mem_cons_self
    have h2 := ih (fun x hx => h x (List.mem_cons_of_mem _ hx))
    rw [List.flatten_cons, concat_after_accepted cfg us rest.flatten h1, h2]
    simp

/-- **prepending conformant sequences never changes whether a sequence is accepted** -/
theorem prepend_accepted_keeps_verdict (cfg : Config) (pre us : List DUnit)
    (h : (validate cfg pre).1 = .ok) : (validate cfg (pre ++ us)).1 = (validate cfg us).1 := by
  rw [concat_after_accepted cfg pre us h]

/-- **appending never rescues a rejected stream**: a rejection (other than the input ending in the
    middle of a sequence) and the pictures decoded before it are unaffected by what follows -/
theorem append_keeps_rejection (cfg : Config) (us post : List DUnit)
    (h1 : (validate cfg us).1 ≠ .ok) (h2 : (validate cfg us).1 ≠ .reject "UnexpectedEndOfStream") :
    validate cfg (us ++ post) = validate cfg us :=
  run_append_err cfg us (VState.fresh 0 []) post _ rfl h1 h2

/-- **appending conformant sequences keeps acceptance** -/
theorem append_accepted_keeps_acceptance (cfg : Config) (us post : List DUnit)
    (h : (validate cfg us).1 = .ok) (hp : (validate cfg post).1 = .ok) :
    (validate cfg (us ++ post)).1 = .ok := by
  rw [concat_after_accepted cfg us post h]; exact hp

/-- a non-conformant sequence at position i of a list whose earlier sequences are conformant is
    rejected with the same error, after exactly the pictures of the earlier sequences and its own -/
theorem rejection_position_independent (cfg : Config) (pre bad post : List DUnit)
    (hpre : (validate cfg pre).1 = .ok)
    (h1 : (validate cfg bad).1 ≠ .ok) (h2 : (validate cfg bad).1 ≠ .reject "UnexpectedEndOfStream") :
    validate cfg (pre ++ (bad ++ post)) =
      ((validate cfg bad).1, (validate cfg pre).2 ++ (validate cfg bad).2) := by
  rw [concat_after_accepted cfg pre _ hpre, append_keeps_rejection cfg bad post h1 h2]

/-! ### non-vacuity -/
def cfg0 : Config := { slicesX := 2, slicesY := 1, levelPattern := .star (.sym WILDCARD) }
def hdr (mv prof pcm : Nat) : DUnit := { kind := .seqHdr, code := 0, len := 30, next := 30, prev := 0, majorVersion := mv, profile := prof, pcm := pcm }
def pic (code n prev : Nat) : DUnit := { kind := .picture, code := code, len := 50, next := 50, prev := prev, picNum := n }
def fr0 (n prev : Nat) : DUnit := { kind := .fragment, code := 236, len := 40, next := 40, prev := prev, picNum := n }
def frd (n c x y prev : Nat) : DUnit := { kind := .fragment, code := 236, len := 45, next := 45, prev := prev, picNum := n, sliceCount := c, fx := x, fy := y }
def eos (prev : Nat) : DUnit := { kind := .eos, code := 16, len := 13, next := 0, prev := prev }
/-- fragments, version 3 -/
def seqA : List DUnit := [hdr 3 3 0, fr0 8 30, frd 8 2 0 0 40, eos 45]
/-- plain HQ pictures, version 2, fields -/
def seqB : List DUnit := [hdr 2 3 1, pic 232 4 30, pic 232 5 50, eos 50]
/-- plain HQ pictures declaring version 3: rejected alone … -/
def seqC : List DUnit := [hdr 3 3 0, pic 232 0 30, eos 50]

/-! each sequence alone is a test vector, evaluated once; what the validator does with their
    concatenations then follows from the theorems above -/
theorem seqA_accepted : validate cfg0 seqA = (.ok, [8]) := by decide +kernel
theorem seqB_accepted : validate cfg0 seqB = (.ok, [4, 5]) := by decide +kernel
theorem seqC_rejected : validate cfg0 seqC = (.reject "MajorVersionTooHigh", [0]) := by decide +kernel

example : validate cfg0 seqA = (.ok, [8]) ∧ validate cfg0 seqB = (.ok, [4, 5]) := ⟨seqA_accepted, seqB_accepted⟩
example : validate cfg0 (seqA ++ seqB ++ seqA) = (.ok, [8, 4, 5, 8]) := by
  have := concat_all_accepted cfg0 [seqA, seqB, seqA] (by simp [seqA_accepted, seqB_accepted])
  simpa [seqA_accepted, seqB_accepted] using this
example : (validate cfg0 seqC).1 = .reject "MajorVersionTooHigh" := by rw [seqC_rejected]
/-- … and still rejected after a sequence that legitimately needs version 3 -/
example : validate cfg0 (seqA ++ seqC) = (.reject "MajorVersionTooHigh", [8, 0]) := by
  rw [concat_after_accepted cfg0 seqA seqC (by rw [seqA_accepted]), seqA_accepted, seqC_rejected]; rfl

end VC2.Props.C10
