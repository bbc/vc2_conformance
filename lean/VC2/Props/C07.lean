/-
  C07 — automatic field filling preserves explicit values and computes derived ones.
  Property theorems only.  Model: VC2/Model/Autofill.lean (tied to bitstream/vc2_autofill.py by the
  `af` correspondence); helper lemmas: VC2/Proofs/Autofill.lean; version implications: generated.
-/
import VC2.Proofs.Autofill
namespace VC2.Props.C07
open VC2 VC2.Model.Autofill VC2.Proofs.Autofill

/-- **every explicitly supplied value appears unchanged** (picture numbers, both parse offsets,
    major_version; parse code, lengths and slice counts are never touched) — for every sequence of
    data units and every position -/
theorem explicit_values_preserved (seq : List AUnit) (i : Nat) (hi : i < seq.length) :
    let v := (autofillSeq seq)[i]'(by rw [autofillSeq_length]; exact hi)
    let u := seq[i]
    v.code = u.code ∧ v.len = u.len ∧ v.dataLen = u.dataLen ∧ v.sliceCount = u.sliceCount ∧
    (∀ n, u.picNum = some n → v.picNum = some n) ∧
    (∀ n, u.next = some n → v.next = some n) ∧
    (∀ n, u.prev = some n → v.prev = some n) ∧
    (u.code = 0 → ∀ h n, u.hdr = some h → h.majorVersion = some n →
      ∃ h', v.hdr = some h' ∧ h'.majorVersion = some n ∧ { h' with majorVersion := h.majorVersion } = h) :=
  autofillSeq_preserves seq i hi

/-- **automatic picture numbers**: an AUTO picture or first fragment gets the previous number
    plus one modulo 2^32, an AUTO continuation fragment repeats the previous number, an explicit
    number becomes the new 'previous' -/
theorem auto_picture_number_step (last : Nat) (u : AUnit)
    (hk : (isPictureCode u.code || isFragmentCode u.code) = true) :
    (u.picNum = none →
      (numberStep last u).1.picNum =
        some (if (isPictureCode u.code || u.sliceCount.getD VC2.Gen.default_fragment_slice_count == 0) = true then (last + 1) % M32 else last) ∧
      (numberStep last u).2 =
        (if (isPictureCode u.code || u.sliceCount.getD VC2.Gen.default_fragment_slice_count == 0) = true then (last + 1) % M32 else last)) ∧
    (∀ n, u.picNum = some n → (numberStep last u).2 = n) :=
  ⟨fun hp => numberStep_auto last u hp hk, fun n hn => numberStep_explicit last u n hn hk⟩

/-- units that are not pictures or fragments neither get nor change a number -/
theorem other_units_do_not_count (last : Nat) (u : AUnit)
    (hk : (isPictureCode u.code || isFragmentCode u.code) = false) : numberStep last u = (u, last) :=
  numberStep_other last u hk

/-- **restart at 0 each sequence, wrap at 2^32** (closed form): `k` consecutive AUTO pictures
    following number `last` are numbered last+1, last+2, … modulo 2^32; a sequence starts from
    `last = 2^32 - 1`, i.e. its first AUTO picture is 0 -/
theorem auto_numbers_count_up (us : List AUnit) (last : Nat)
    (h : ∀ u ∈ us, isPictureCode u.code = true ∧ u.picNum = none) (j : Nat) (hj : j < us.length) :
    ((numberFrom last us)[j]'(by rw [numberFrom_length]; exact hj)).picNum = some ((last + j + 1) % M32) :=
  auto_run us last h j hj

theorem sequence_starts_at_zero (us : List AUnit)
    (h : ∀ u ∈ us, isPictureCode u.code = true ∧ u.picNum = none) (j : Nat) (hj : j < us.length) :
    ((autofillPictureNumbers us)[j]'(by unfold autofillPictureNumbers; rw [numberFrom_length]; exact hj)).picNum
      = some (j % M32) := by
  refine (auto_run us (M32 - 1) h j hj).trans ?_
  -- M32 - 1 + j + 1 = M32 + j
  rw [Nat.add_right_comm, Nat.sub_add_cancel (by decide : 1 ≤ M32), Nat.add_mod_left]

/-- **automatic major_version = the minimum the features require**: the computed version is an
    upper bound of every data unit's implication and of the minimum version, and it is attained -/
theorem required_version_is_least_upper_bound (seq : List AUnit) :
    VC2.Gen.MINIMUM_MAJOR_VERSION ≤ requiredVersion seq ∧
    (∀ u ∈ seq, unitVersion u ≤ requiredVersion seq) ∧
    (requiredVersion seq = VC2.Gen.MINIMUM_MAJOR_VERSION ∨ ∃ u ∈ seq, requiredVersion seq = unitVersion u) :=
  ⟨(foldl_max_ge seq _).1, (foldl_max_ge seq _).2, foldl_max_attained seq _⟩

/-- every AUTO major_version is set to that version, explicit ones are kept, nothing else in the
    unit changes except the extended transform parameters -/
theorem auto_major_version_filled (seq : List AUnit) (i : Nat) (hi : i < seq.length) :
    VersionRel (requiredVersion seq) seq[i]
      ((autofillMajorVersion seq)[i]'(by unfold autofillMajorVersion; rw [versionFill_length]; exact hi)) :=
  versionFill_spec (requiredVersion seq) seq false i hi

/-- extended transform parameters are dropped only when the version is below 3, and then they
    carried no feature: the transform that is decoded is unchanged -/
theorem dropped_extended_parameters_were_inert (seq : List AUnit) (h3 : requiredVersion seq < 3)
    (u : AUnit) (hu : u ∈ seq) (ht : hasTP u = true) (hc : (u.code == 0) = false) (t : TP) (htp : u.tp = some t) :
    t.who = t.w ∧ t.dho = 0 := by
  have hv : unitVersion u = pymax (VC2.Gen.parse_code_version_implication u.code) (tpVersion t) := by
    unfold unitVersion; rw [hc, ht, htp]; rfl
  have h2 : tpVersion t ≤ requiredVersion seq :=
    Int.le_trans (hv ▸ pymax_ge_right _ _) ((foldl_max_ge seq VC2.Gen.MINIMUM_MAJOR_VERSION).2 u hu)
  exact tpVersion_lt3 t (Int.lt_of_le_of_lt h2 h3)

/-- **omitted fields take their documented defaults**: what the version rule reads from transform
    parameters with omitted fields (2-D wavelet, asymmetry flags, horizontal-only wavelet and depth) is
    exactly what it reads once every default is written out - which is what the serialiser puts in the
    stream - so the automatic version is the one the SERIALISED stream's features require -/
theorem omitted_fields_take_documented_defaults (t : TP) :
    t.filled.w = t.w ∧ t.filled.who = t.who ∧ t.filled.dho = t.dho ∧ tpVersion t.filled = tpVersion t :=
  -- reading a written-out default back gives the default: `(some (x.getD d)).getD d` is `x.getD d` by computation
  ⟨rfl, rfl, rfl, rfl⟩

/-- a set index flag whose wavelet is omitted means the DEFAULT horizontal-only wavelet, not the 2-D one
    (the confusion seeded change C07e1 makes) -/
theorem set_flag_with_omitted_value (t : TP) (hf : t.asymIndexFlag = some true) (hv : t.waveletHo = none) :
    t.who = VC2.Gen.default_wavelet_index_ho := by
  simp [TP.who, hf, hv]

/-- the table the autofill code consults and the serialiser's own table agree on these defaults (both generated) -/
example : VC2.Gen.default_wavelet_index = VC2.Gen.serialiser_default_wavelet_index ∧
    VC2.Gen.default_asym_transform_index_flag = VC2.Gen.serialiser_default_asym_transform_index_flag ∧
    VC2.Gen.default_wavelet_index_ho = VC2.Gen.serialiser_default_wavelet_index_ho ∧
    VC2.Gen.default_asym_transform_flag = VC2.Gen.serialiser_default_asym_transform_flag ∧
    VC2.Gen.default_dwt_depth_ho = VC2.Gen.serialiser_default_dwt_depth_ho ∧
    VC2.Gen.default_fragment_slice_count = VC2.Gen.serialiser_default_fragment_slice_count := by decide

/-- **parse offsets equal the true distances**: an AUTO next offset is the unit's own length
    (0 for the last unit of the sequence; 13 + payload length for padding/auxiliary data), an AUTO
    previous offset is the length of the preceding unit (0 for the first) -/
theorem auto_offsets_are_true_distances (seq : List AUnit) (i : Nat) (hi : i < seq.length) :
    ((autofillOffsets seq)[i]'(by unfold autofillOffsets; rw [offsetsFrom_length]; exact hi)).next =
      some (match seq[i].next with
        | some n => n
        | none => if seq[i].code == 0x20 || seq[i].code == 0x30 then 13 + seq[i].dataLen
                  else if i + 1 = seq.length then 0 else seq[i].len) ∧
    ((autofillOffsets seq)[i]'(by unfold autofillOffsets; rw [offsetsFrom_length]; exact hi)).prev =
      some (match seq[i].prev with
        | some q => q
        | none => (prevLenAt none seq i).getD 0) :=
  ⟨(offsets_spec seq none i hi).1, (offsets_spec seq none i hi).2.1⟩

/-! ### non-vacuity -/
def h0 : Hdr := { majorVersion := none, profile := 3, frameRate := none, signalRange := none, colorSpec := none,
                  primaries := none, matrix := none, transfer := none }
def sq : List AUnit := [
  { code := 0, len := 30, hdr := some h0 },
  { code := 0xE8, len := 50, tp := some { wavelet := some 1, asymIndexFlag := none, waveletHo := none, asymFlag := none, depthHo := none, hasEtp := true } },
  { code := 0x30, len := 17, dataLen := 4 },
  { code := 0xE8, len := 50, picNum := some 4294967295, tp := some { wavelet := some 1, asymIndexFlag := none, waveletHo := none, asymFlag := none, depthHo := none, hasEtp := false } },
  { code := 0xEC, len := 40, sliceCount := some 0, tp := some { wavelet := some 1, asymIndexFlag := none, waveletHo := none, asymFlag := none, depthHo := none, hasEtp := false } },
  { code := 0xEC, len := 45, sliceCount := some 2 },
  { code := 0x10, len := 13 }]

example : (autofillSeq sq).map (fun u => (u.picNum, u.next, u.prev)) =
    [(none, some 30, some 0), (some 0, some 50, some 30), (none, some 17, some 50), (some 4294967295, some 50, some 17),
     (some 0, some 40, some 50), (some 0, some 45, some 40), (none, some 0, some 45)] := by decide +kernel
example : requiredVersion sq = 3 ∧ requiredVersion (sq.take 4) = 2 := by decide +kernel

end VC2.Props.C07
