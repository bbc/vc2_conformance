/-
  C22 — picture generators produce well-formed pictures for any regular format: the statement for the
  five generators as wholes.  Property theorems only (lemmas: VC2/Proofs/PictureShape.lean).

  Model: VC2/Model/PictureShape.lean - the array-size semantics of every numpy operation the generators
  and the pipe behind them perform (slices, broadcasting assignments, repeats), the picture counts and
  numbers, and the integer sample values of mid_gray / white_noise; tied to picture_generators.py and
  color_conversion.py by the `ps` correspondence, which runs the five REAL generators on regular AND
  irregular formats (where the model predicts exactly which ones numpy rejects).
  The coded size is the GENERATED picture_dimensions.

  Not modelled: the floating-point colour arithmetic (its result enters only through round-and-clip,
  `samples_within_depth` in C22.lean).
-/
import VC2.Proofs.PictureShape
namespace VC2.Props.C22
open VC2 VC2.Model.PictureGen VC2.Model.PictureShape VC2.Proofs.PictureShape

/-- **the property, sizes and counts**: for any regular format (any frame size that is a multiple of
    the subsampling and, for interlaced sources or field coding, of twice the vertical subsampling; any
    field order; any sprite the pixel aspect ratio leaves non-empty) every generator that is asked for at
    least one frame yields
      * at least one picture,
      * an even number when pictures are fields,
      * numbered consecutively from 0,
      * each with all three components exactly the coded size (the generated picture_dimensions). -/
theorem generators_wellformed (g : Generator) (f : Fmt) (hr : Regular f) (hs : (spriteShape f).isSome)
    (hn : 1 ≤ framesDrawn g) :
    ∃ n, generate g f = some (List.replicate n (codedShape f)) ∧ 1 ≤ n ∧ (f.fields = true → n % 2 = 0) ∧
      picNumbers g f n = List.range n := by
  refine ⟨if f.fields then 2 * framesDrawn g else framesDrawn g, generate_regular g f hr hs, ?_, ?_, ?_⟩
  · split <;> omega
  · intro hf; simp [hf]
  · cases g <;> simp only [picNumbers]
    cases hf : f.fields <;> simp [framesDrawn, List.range_succ]

/-- the sprite exists for every pixel aspect ratio up to 128:1 (beyond that PIL is asked for an empty
    image and refuses: the guard is needed, see the example below) -/
theorem sprite_exists (f : Fmt) (h1 : 1 ≤ f.parNumer) (h : f.parNumer ≤ 128 * f.parDenom) : (spriteShape f).isSome := by
  unfold spriteShape
  split
  · have : 1 ≤ 128 * f.parDenom / f.parNumer := (Nat.le_div_iff_mul_le (by omega)).mpr (by omega)
    simp only []
    rw [if_neg (by omega)]; rfl
  · rfl

/-- the frames the three drawing generators produce have the frame's size whatever the sprite's size and
    position - including frames narrower than the sprite and positions beyond the right edge
    (numpy accepts every one of the blits) -/
theorem sprite_always_fits (f : Fmt) (sprite : Shape) (px : Nat) : movingFrame f sprite px = some (f.height, f.width) :=
  movingFrame_ok f sprite px

/-- **sample values, mid_gray**: with an excursion of at least 1 (the validator rejects 0) the depth is
    at least 1 and the mid-gray sample `1 << (depth − 1)` lies within the depth -/
theorem mid_gray_sample_in_range (exc : Nat) (h : 1 ≤ exc) :
    ∃ v, midGrayValue (depthOf exc) = some v ∧ 0 ≤ v ∧ v ≤ 2 ^ (depthOf exc).toNat - 1 := by
  have hd := depth_pos exc h
  refine ⟨2 ^ (depthOf exc - 1).toNat, if_neg (by omega), Int.le_of_lt (two_pow_pos _), ?_⟩
  have e : (depthOf exc - 1).toNat = (depthOf exc).toNat - 1 := by omega
  have := two_pow_pos ((depthOf exc).toNat - 1)
  rw [e, two_pow_pred (depthOf exc).toNat (by omega)]
  omega

/-- **sample values, white_noise**: a draw from `randint(0, 1 << depth)` lies within the depth -/
theorem noise_sample_in_range (depth v : Int) (h0 : 0 ≤ v) (h1 : v < noiseBound depth) :
    0 ≤ v ∧ v ≤ 2 ^ depth.toNat - 1 := by
  unfold noiseBound at h1; omega

/-! the hypotheses are needed and satisfiable -/

/-- an excursion of 0 gives depth 0 and mid_gray's shift count is negative (Python raises) -/
example : midGrayValue (depthOf 0) = none := by decide
/-- an odd width with 4:2:2: from_444's assignment is rejected by numpy -/
example : generate .staticSprite { width := 5, height := 4, cdf := 1, interlaced := false, fields := false, tff := true } = none := by decide
/-- ... except that a width of 1 broadcasts into the empty colour-difference plane -/
example : (generate .linearRamps { width := 1, height := 4, cdf := 1, interlaced := false, fields := false, tff := true }).isSome := by decide
/-- an odd height with an interlaced source: the two fields differ in size -/
example : generate .linearRamps { width := 4, height := 5, cdf := 0, interlaced := true, fields := false, tff := true } = none := by decide
/-- a pixel aspect ratio beyond 128:1 leaves no sprite -/
example : generate (.movingSprite 10) { width := 4, height := 4, cdf := 0, interlaced := false, fields := false, tff := true, parNumer := 200 } = none := by decide
example : Regular { width := 6, height := 8, cdf := 2, interlaced := true, fields := true, tff := false } := by decide
example : generate (.movingSprite 2) { width := 6, height := 8, cdf := 2, interlaced := true, fields := true, tff := false } =
    some (List.replicate 4 { y := (4, 6), c1 := (2, 3), c2 := (2, 3) }) := by decide

end VC2.Props.C22
