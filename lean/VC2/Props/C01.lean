/-
  C01 — the validator accepts exactly the structurally conformant data-unit histories.
  Property theorems only (helper lemmas: VC2/Proofs/Stream.lean).  The model is
  VC2/Model/Stream.lean, tied to decoder/*.py by the `vd` correspondence.
-/
import VC2.Proofs.Stream
import VC2.Model.SymReDriver
namespace VC2.Props.C01
open VC2 VC2.Model.SymRe VC2.Model.Stream VC2.Proofs.Stream

/-- **Every rejection is a conformance error**: on every history of individually valid data
    units (any length, any offsets, any numbers) the validator model ends with `ok`, a
    `ConformanceError` class or the padding desynchronisation marker, never with a KeyError /
    UnboundLocalError / TypeError / ZeroDivisionError.  Hypotheses: the level pattern admits a
    sequence header first (true of every generated level pattern, `level_patterns_admit_header`)
    and the parse code 0 is dispatched as a sequence header. -/
theorem validate_never_crashes (cfg : Config)
    (hlevel : (Matcher.init false cfg.levelPattern).matchSymbol "sequence_header" ≠ none)
    (us : List DUnit) (hk : ∀ u ∈ us, KindOk u) : ¬ IsCrash (validate cfg us).1 :=
  run_no_crash cfg hlevel us _ hk (inv_fresh 0 [])

/-! ### each rule, exactly (one data unit against the state left by the units before it)

The state components have the meaning recorded in `Model/Stream.lean`: `lastPI` the offset of the
previous parse_info of this sequence, `nextOff` its next_parse_offset, `lastPicNum`/`numPics` the last
picture number and the number of pictures of this sequence, `fragRemaining`/`fragReceived` the
progress of the fragmented picture, the two matchers the progress of the ordering patterns. -/

/-- **parse offsets, ordering patterns, profile and version rules**: `parse_info` accepts a unit
    exactly when all of these hold -/
theorem parse_info_accepts_iff (s : VState) (u : DUnit) :
    (∃ s1, parseInfo s u = .ok s1) ↔
      ((s.nextOff = none ∨ s.nextOff = some 0 ∨
          ∃ last, s.lastPI = some last ∧ s.nextOff = some (s.pos - last)) ∧
      (s.generic.matchSymbol (codeName u.code)).isSome = true ∧
      (∀ lm, s.level = some lm → (lm.matchSymbol (codeName u.code)).isSome = true) ∧
      (∀ p, s.profile = some p → profileAllows p u.code = true) ∧
      ¬ (((s.majorVersion.map (fun (v : Nat) => (v : Int))).getD VC2.Gen.MINIMUM_MAJOR_VERSION)
            < VC2.Gen.parse_code_version_implication u.code) ∧
      (u.code = 0x10 → u.next = 0) ∧
      (u.next = 0 → u.code = 0x10 ∨ isPicture u.code = true ∨ isFragment u.code = true) ∧
      (u.next = 0 ∨ 13 ≤ u.next) ∧
      (s.lastPI = none → u.prev = 0) ∧
      (∀ last, s.lastPI = some last → u.prev = s.pos - last)) := by
  simp only [parseInfo_ok_iff]
  constructor
  · rintro ⟨_, h1, g, hg, lvl, hl, h4, h5, h6, h7, h8, h9, h10, _⟩
    exact ⟨h1, by rw [hg]; rfl, (levelStep_ok _ _).1 ⟨lvl, hl⟩, h4, h5, h6, h7, h8, h9, h10⟩
  · rintro ⟨h1, h2, h3, h4, h5, h6, h7, h8, h9, h10⟩
    obtain ⟨g, hg⟩ := Option.isSome_iff_exists.1 h2
    obtain ⟨lvl, hl⟩ := (levelStep_ok _ _).2 h3
    exact ⟨_, h1, g, hg, lvl, hl, h4, h5, h6, h7, h8, h9, h10, rfl⟩

theorem picture_number_accepts_iff (s : VState) (n : Nat) :
    (∃ s1, pictureNumberCheck s n = .ok s1) ↔
      ((∀ last, s.lastPicNum = some last → n = (last + 1) % 4294967296) ∧
       ∃ pcm, s.pcm = some pcm ∧ ¬ (pcm = 1 ∧ s.numPics % 2 = 0 ∧ n % 2 ≠ 0)) := by
  simp only [pictureNumberCheck_ok_iff]
  constructor
  · rintro ⟨_, h1, pcm, hp, h2, _⟩; exact ⟨h1, pcm, hp, h2⟩
  · rintro ⟨h1, pcm, hp, h2⟩; exact ⟨_, h1, pcm, hp, h2, rfl⟩

theorem data_fragment_accepts_iff (s : VState) (u : DUnit) :
    (∃ s1, dataFragment s u = .ok s1) ↔
      (s.fragRemaining ≠ 0 ∧ s.lastPicNum = some u.picNum ∧ u.sliceCount ≤ s.fragRemaining ∧
        ∃ received sx, s.fragReceived = some received ∧ s.slicesX = some sx ∧ sx ≠ 0 ∧
          u.fx = received % sx ∧ u.fy = received / sx) := by
  simp only [dataFragment_ok_iff]
  constructor
  · rintro ⟨_, h0, hl, hle, r, sx, hr, hx, hx0, hfx, hfy, _⟩; exact ⟨h0, hl, hle, r, sx, hr, hx, hx0, hfx, hfy⟩
  · rintro ⟨h0, hl, hle, r, sx, hr, hx, hx0, hfx, hfy⟩; exact ⟨_, h0, hl, hle, r, sx, hr, hx, hx0, hfx, hfy, rfl⟩

theorem end_of_sequence_accepts_iff (s : VState) :
    endOfSequence s = .ok () ↔
      (s.generic.isComplete = true ∧ (∀ lm, s.level = some lm → lm.isComplete = true) ∧
       s.fragRemaining = 0 ∧
       ∃ pcm mv, s.pcm = some pcm ∧ s.majorVersion = some mv ∧
         ¬ (pcm = 1 ∧ s.numPics % 2 ≠ 0) ∧
         ((s.numPics = 0 ∧ mv = 3) ∨
            ¬ ((mv : Int) > s.expectedVersion.getD VC2.Gen.MINIMUM_MAJOR_VERSION))) := by
  unfold endOfSequence
  simp only [bind_ok, guardRej_ok, getOrCrash_ok, exists_const]
  refine and_congr ?_ (and_congr ?_ (and_congr ?_ ?_))
  · simp
  · cases s.level <;> simp
  · simp
  · constructor
    · rintro ⟨pcm, hp, h4, mv, hm, h5⟩
      refine ⟨pcm, mv, hp, hm, by simpa using h4, ?_⟩
      by_cases a : s.numPics = 0 ∧ mv = 3
      · exact Or.inl a
      · exact Or.inr fun hgt => a (by simpa [hgt] using h5)
    · rintro ⟨pcm, mv, hp, hm, h4, h5⟩
      refine ⟨pcm, hp, by simpa using h4, mv, hm, ?_⟩
      rcases h5 with ⟨a, b⟩ | h5
      · simp [a, b]
      · simp [h5]

/-! ### history-level consequences -/

/-- **sequence header first**: the first data unit of an accepted (or accepted-so-far) sequence is
    a sequence header -/
theorem first_unit_is_sequence_header (s s1 : VState) (u : DUnit) (hi : Inv s) (hl : s.lastPI = none)
    (hp : parseInfo s u = .ok s1) (hk : KindOk u) : u.kind = .seqHdr :=
  first_is_header s s1 u hi hl hp hk

/-- **end of sequence last**: a non-empty accepted stream ends with an end-of-sequence unit
    (stated for any start state, so also for every suffix of a stream) -/
theorem accepted_ends_with_end_of_sequence (cfg : Config) :
    ∀ (us : List DUnit) (s : VState), (run cfg s us).1 = .ok →
      (us = [] ∧ s.lastPI = none) ∨ ∃ e, us.getLast? = some e ∧ e.kind = .eos := by
  intro us
  induction us with
  | nil => exact fun s h => Or.inl ⟨rfl, (run_ok_nil cfg s).1 h⟩
  | cons u rest ih =>
    intro s h
    obtain ⟨s', hs, hr⟩ := (run_ok_step cfg s u rest).1 h
    right
    rcases ih s' hr with ⟨rfl, hl⟩ | ⟨e, he1, he2⟩
    · rcases (step_ok_boundary cfg s s' u hs).2 with ⟨heos, _⟩ | hl'
      · exact ⟨u, rfl, heos⟩
      · rw [hl'] at hl; cases hl
    · cases rest with
      | nil => cases he1
      | cons r rs => exact ⟨e, by simpa [List.getLast?_cons_cons] using he1, he2⟩

/-- **sequences are validated independently** (the structural half of C10): an accepted prefix
    leaves nothing behind but the position and the decoded pictures -/
theorem accepted_prefix_then_fresh (cfg : Config) (us1 us2 : List DUnit)
    (h : (validate cfg us1).1 = .ok) :
    validate cfg (us1 ++ us2) =
      run cfg (VState.fresh (totalLen us1) (validate cfg us1).2) us2 := by
  have := run_append_ok cfg us1 (VState.fresh 0 []) us2 (fun _ => rfl) h
  simpa [validate, VState.fresh] using this

/-- every level ordering pattern generated from level_sequence_restrictions.csv parses and admits a
    sequence header as first data unit (the hypothesis of `validate_never_crashes`) -/
theorem level_patterns_admit_header :
    VC2.Gen.levelPatternTokens.all (fun p =>
      match (parseRegex (p.2.map tokOf)).toOption with
      | some ast => ((Matcher.init false ast).matchSymbol "sequence_header").isSome
      | none => false) = true := by
  decide +kernel

/-! ### non-vacuity: a concrete accepted history and concrete rejected ones -/

def cfg0 : Config := { slicesX := 2, slicesY := 1, levelPattern := .star (.sym WILDCARD) }
def hdr (prev : Nat) : DUnit := { kind := .seqHdr, code := 0, len := 30, next := 30, prev := prev, majorVersion := 3, profile := 3 }
def pic (n prev : Nat) : DUnit := { kind := .picture, code := 232, len := 50, next := 50, prev := prev, picNum := n }
def fr0 (n prev : Nat) : DUnit := { kind := .fragment, code := 236, len := 40, next := 40, prev := prev, picNum := n }
def frd (n c x y prev : Nat) : DUnit := { kind := .fragment, code := 236, len := 45, next := 45, prev := prev, picNum := n, sliceCount := c, fx := x, fy := y }
def eos (prev : Nat) : DUnit := { kind := .eos, code := 16, len := 13, next := 0, prev := prev }

example : validate cfg0 [hdr 0, pic 7 30, fr0 8 50, frd 8 1 0 0 40, frd 8 1 1 0 45, eos 45] = (.ok, [7, 8]) := by
  decide +kernel
example : (validate cfg0 [hdr 0, pic 7 30, pic 9 50, eos 50]).1 = .reject "NonConsecutivePictureNumbers" := by
  decide +kernel
example : (validate cfg0 [hdr 0, frd 8 1 0 0 30, eos 45]).1 = .reject "TooManySlicesInFragmentedPicture" := by
  decide +kernel
example : (validate cfg0 [hdr 0, fr0 8 30, frd 8 1 1 0 40, eos 45]).1 = .reject "FragmentSlicesNotContiguous" := by
  decide +kernel
example : (validate cfg0 [hdr 0, fr0 8 30, pic 9 40, eos 50]).1 = .reject "PictureInterleavedWithFragmentedPicture" := by
  decide +kernel
example : (validate cfg0 [hdr 0, pic 7 30, eos 51]).1 = .reject "InconsistentPreviousParseOffset" := by
  decide +kernel

end VC2.Props.C01
