/-
  C22 — picture generators produce well-formed pictures for any regular format.
  Property theorems only.  PARTIAL: the model (VC2/Model/PictureGen.lean) covers how many pictures
  come out, their heights and numbers, and the final clipping; the floating-point colour conversion
  and the sprite/ramp drawing are outside any executable integer model and are covered by running
  the real generators over regular formats.
-/
import VC2.Model.PictureGen
import VC2.Proofs.Picture
namespace VC2.Props.C22
open VC2 VC2.Model.PictureGen

theorem everyOther_even (h first : Nat) (he : h % 2 = 0) (hf : first ≤ 1) : everyOther h first = h / 2 := by
  unfold everyOther; omega

theorem toInterlaced_spec (tff : Bool) (h : Nat) (he : h % 2 = 0) : ∀ (n : Nat),
    toInterlaced tff (List.replicate n h) = List.replicate n (h / 2) := by
  intro n
  unfold toInterlaced
  apply List.ext_getElem
  · simp
  · intro i h1 h2
    simp only [List.getElem_map, List.getElem_zipIdx, List.getElem_replicate]
    apply everyOther_even h _ he
    split <;> omega

theorem interleave_spec (tff : Bool) (f : Nat) : ∀ (n : Nat),
    interleaveFields tff (List.replicate (2 * n) f) = some (List.replicate n (2 * f)) := by
  intro n
  induction n with
  | zero => rfl
  | succ n ih =>
    have : 2 * (n + 1) = (2 * n) + 1 + 1 := by omega
    rw [this, List.replicate_succ, List.replicate_succ]
    simp only [interleaveFields]
    cases tff <;> simp [ih, List.replicate_succ]

theorem splitFields_spec (tff : Bool) (h : Nat) (he : h % 2 = 0) : ∀ (n : Nat),
    toSplitFields tff (List.replicate n h) = List.replicate (2 * n) (h / 2) := by
  intro n
  induction n with
  | zero => rfl
  | succ n ih =>
    unfold toSplitFields at ih ⊢
    rw [List.replicate_succ, List.flatMap_cons, ih]
    have e0 := everyOther_even h 0 he (by omega)
    have e1 := everyOther_even h 1 he (by omega)
    have : 2 * (n + 1) = (2 * n) + 1 + 1 := by omega
    rw [this, List.replicate_succ, List.replicate_succ]
    cases tff <;> simp [e0, e1, List.replicate_succ]

/-- **counts and heights**: a generator that draws `frames ≥ 1` frames of an even height `h`
    (`frames_to_samples` doubles the samples for interlaced sources) yields
    * frames pictures of height h when pictures are frames,
    * 2·frames pictures (an even number) of height h/2 when pictures are fields,
    for progressive and interlaced sources and either field order -/
theorem pictures_count_and_height (fields interlaced tff : Bool) (frames h : Nat)
    (he : (interlaced || fields) = true → h % 2 = 0) :
    toPictures fields interlaced tff (List.replicate (framesToSamples interlaced frames) h) =
      some (List.replicate (if fields then 2 * frames else frames) (if fields then h / 2 else h)) := by
  unfold toPictures framesToSamples
  cases fields <;> cases interlaced <;> simp only [Bool.not_false, Bool.not_true, if_true, if_false, Nat.mul_one]
  · simp
  · have he := he rfl
    rw [Nat.mul_comm, toInterlaced_spec tff h he, interleave_spec]
    have : 2 * (h / 2) = h := by omega
    simp [this]
  · rw [splitFields_spec tff h (he rfl)]; simp
  · rw [Nat.mul_comm, toInterlaced_spec tff h (he rfl)]; simp

/-- with an odd height the interlaced-frame path has no well-formed output (the two fields differ
    in size): the property's regularity hypothesis is needed -/
example : toPictures false true true [5, 5] = none := by decide

/-- **numbered consecutively from 0** -/
theorem numbered_from_zero (pics : List Nat) : (number pics).map (·.1) = List.range pics.length := by
  unfold number
  apply List.ext_getElem
  · simp
  · intro i h1 h2; simp

/-- **every sample within the bit depth**, whatever the colour conversion produced -/
theorem samples_within_depth (depth : Nat) (r : Int) : 0 ≤ clipToDepth depth r ∧ clipToDepth depth r ≤ 2 ^ depth - 1 := by
  have := two_pow_pos depth
  exact VC2.Proofs.Picture.gen_clip_range r 0 _ (by omega)

example : toPictures true true false (List.replicate (framesToSamples true 3) 8) = some (List.replicate 6 4) := by decide
example : toPictures false true true (List.replicate (framesToSamples true 3) 8) = some [8, 8, 8] := by decide

end VC2.Props.C22
