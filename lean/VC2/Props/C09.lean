/-
  C09 — every decoded picture is well-formed.  Property theorems only.
  PARTIAL: sample range (for EVERY integer coefficient input), output shape of the inverse transform
  and of padding removal, and the one-output-per-picture count of the stream-structure model are
  theorems; that the picture number is copied and that the real decoder composes these steps is
  validated by the correspondence on streams with re-packed extreme coefficients.
-/
import VC2.Proofs.Picture
import VC2.Props.C11
import VC2.Props.C01
import VC2.Model.Pipeline
namespace VC2.Props.C09
open VC2 VC2.Model.Picture VC2.Proofs.Picture

/-- **every output sample lies in [0, 2^depth − 1]**, whatever integer the inverse transform
    produced (extreme, random or dangling coefficients), for every depth ≥ 1 -/
theorem output_sample_in_range (d : Nat) (hd : 1 ≤ d) (x : Int) :
    0 ≤ offsetSample d (clipSample d x) ∧ offsetSample d (clipSample d x) ≤ 2 ^ d - 1 := by
  have h := clip_range d x
  have h2 := two_half d hd
  unfold offsetSample
  omega

/-- **shape**: removing the padding yields exactly the requested height and width (the padded
    array is at least as large: `encoder_padding_is_admissible` / C13) -/
theorem pad_removal_shape (a : VC2.Model.Wavelet.Arr) (h w : Nat) (hh : h ≤ a.h) (hw : w ≤ a.w) :
    (VC2.Model.Wavelet.padRemoval a h w).h = h ∧ (VC2.Model.Wavelet.padRemoval a h w).w = w :=
  ⟨Nat.min_eq_right hh, Nat.min_eq_right hw⟩

/-- **the composed decoder half**: whatever the coefficients (any integers, any quantisation index, either
    profile), every sample of the decoded component lies in [0, 2^depth − 1] and the component has the
    requested size whenever the inverse transform produced at least that much -/
theorem decoded_component_wellformed (depth : Nat) (hd : 1 ≤ depth) (fv fho : VC2.Model.Wavelet.Filter) (ld : Bool) (q : Int)
    (h w : Nat) (c : VC2.Model.Wavelet.Coeffs) :
    (∀ y x, 0 ≤ (VC2.Model.Pipeline.decodeComponent depth fv fho ld q h w c).f y x ∧
            (VC2.Model.Pipeline.decodeComponent depth fv fho ld q h w c).f y x ≤ 2 ^ depth - 1) ∧
    (VC2.Model.Pipeline.decodeComponent depth fv fho ld q h w c).h ≤ h ∧
    (VC2.Model.Pipeline.decodeComponent depth fv fho ld q h w c).w ≤ w :=
  ⟨fun y x => output_sample_in_range depth hd _, Nat.min_le_right _ _, Nat.min_le_right _ _⟩

/-- **one output per picture data unit and per completed fragmented picture**: in the
    stream-structure model a whole picture appends exactly its own number to the decoded list -/
theorem picture_unit_outputs_once (cfg : VC2.Model.Stream.Config) (s s2 : VC2.Model.Stream.VState)
    (u : VC2.Model.Stream.DUnit) (hk : u.kind = .picture)
    (h : VC2.Model.Stream.payload cfg s u = .ok s2) : s2.decoded = s.decoded ++ [u.picNum] := by
  obtain ⟨_, _, h1, rfl⟩ := (VC2.Proofs.Stream.payload_picture_ok_iff cfg s s2 hk).1 h
  obtain ⟨_, _, _, _, rfl⟩ := (VC2.Proofs.Stream.pictureNumberCheck_ok_iff _ _ _).1 h1
  rfl

/-- a slice-bearing fragment outputs a picture exactly when it completes the fragmented picture -/
theorem fragment_outputs_when_complete (s s1 : VC2.Model.Stream.VState) (u : VC2.Model.Stream.DUnit)
    (h : VC2.Model.Stream.dataFragment s u = .ok s1) :
    ∃ received sx, s.fragReceived = some received ∧ s.slicesX = some sx ∧
      s1.decoded = (if decide (received + u.sliceCount = sx * (s.slicesY.getD 0))
                    then s.decoded ++ [u.picNum] else s.decoded) := by
  obtain ⟨_, _, _, received, sx, hr, hsx, _, _, _, rfl⟩ := (VC2.Proofs.Stream.dataFragment_ok_iff s u s1).1 h
  exact ⟨received, sx, hr, hsx, rfl⟩

example : offsetSample 10 (clipSample 10 (2 ^ 200)) = 1023 ∧ offsetSample 10 (clipSample 10 (-(2 ^ 200))) = 0 ∧
    offsetSample 1 (clipSample 1 5) = 1 := by decide +kernel

end VC2.Props.C09
