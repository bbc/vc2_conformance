/-
  C23 — raw picture files round-trip and comparisons are exact.  Property theorems only.
  Model: VC2/Model/FileFormat.lean (tied to file_format.py / vc2_picture_compare.py by the `ff`
  correspondence); helper lemmas: VC2/Proofs/FileFormat.lean.
-/
import VC2.Proofs.FileFormat
namespace VC2.Props.C23
open VC2 VC2.Model.FileFormat VC2.Proofs.FileFormat

/-- **any bit depth**: a sample below `2^depth` written in the format's bytes-per-sample
    (little-endian) is read back exactly, for every depth ≥ 1 (8, 10, 16, 33, 64, 1000 …) -/
theorem sample_round_trip (d v : Nat) (hd : 1 ≤ d) (hv : v < 2 ^ d) :
    unpackSample d (packSample (bytesPerSample d) v) = v :=
  unpack_pack _ d v hv (bytesPerSample_holds d hd)

/-- bytes per sample: a power of two, large enough, and the least such -/
theorem bytes_per_sample_spec (d : Nat) (hd : 1 ≤ d) :
    (∃ k, bytesPerSample d = 2 ^ k) ∧ d ≤ 8 * bytesPerSample d ∧
    (d ≤ 8 → bytesPerSample d = 1) ∧ (9 ≤ d → 8 * bytesPerSample d < 2 * (d + 7)) :=
  ⟨⟨_, rfl⟩, bytesPerSample_holds d hd, bytesPerSample_small d hd, bytesPerSample_least d⟩

/-- whatever is in the padding bits of the file, a sample that is read lies within the depth -/
theorem read_sample_in_range : ∀ (bytes : List Nat) (d : Nat), (∀ b ∈ bytes, b < 256) →
    unpackSample d bytes < 2 ^ d := by
  intro bytes
  induction bytes with
  | nil => intro d _; simp only [unpackSample]; exact Nat.two_pow_pos d
  | cons b bs ih =>
    intro d h
    simp only [unpackSample]
    split
    · rename_i h8
      have hb := h b List.mem_cons_self
      have := ih (d - 8) (fun x hx => h x (List.mem_cons_of_mem _ hx))
      rw [two_pow_sub_eight d h8]; omega
    · exact Nat.mod_lt _ (Nat.two_pow_pos d)

/-- **whole pictures**: writing the planes of any well-formed picture (any sizes, any depths, any
    number of components) and reading them back with the same dimensions returns the picture -/
theorem picture_round_trip (cs : List Dim) (ps : List (List (List Nat))) (h : PictureOk cs ps) :
    readPicture cs (writePicture cs ps) = ps :=
  readPicture_writePicture cs ps h

/-- **'identical' is exact**: a component is reported identical iff all its samples are equal -/
theorem identical_iff_equal (a b : List Int) (h : a.length = b.length) :
    planeIdentical (deltas a b) = true ↔ a = b := by
  rw [planeIdentical_iff]; exact deltas_zero_iff a b h

/-- **the differing-pixel count is exact** -/
theorem differing_pixel_count (a b : List Int) :
    countNonzero (deltas a b) = ((a.zip b).filter (fun p => p.1 ≠ p.2)).length :=
  countNonzero_deltas a b

/-- **exit status 0 exactly when all samples and metadata match** -/
theorem compare_code_zero_iff (vpEq pcmEq numEq : Bool) (as bs : List (List Int))
    (hl : as.length = bs.length) (hlen : ∀ p ∈ as.zip bs, p.1.length = p.2.length) :
    compareCode vpEq pcmEq numEq (List.zipWith deltas as bs) = 0 ↔
      (vpEq = true ∧ pcmEq = true ∧ numEq = true ∧ as = bs) := by
  unfold compareCode
  cases vpEq <;> cases pcmEq <;> cases numEq <;> simp
  -- all metadata equal: the planes decide
  have key : ∀ (as bs : List (List Int)), as.length = bs.length →
      (∀ p ∈ as.zip bs, p.1.length = p.2.length) →
      ((List.zipWith deltas as bs).all planeIdentical = true ↔ as = bs) := by
    intro as
    induction as with
    | nil => intro bs h _; cases bs with
      | nil => simp
      | cons _ _ => cases h
    | cons a as ih =>
      intro bs h hl
      cases bs with
      | nil => cases h
      | cons b bs =>
        simp only [List.length_cons, Nat.add_right_cancel_iff] at h
        simp only [List.zipWith_cons_cons, List.all_cons, Bool.and_eq_true, List.cons.injEq]
        rw [identical_iff_equal a b (hl (a, b) (by simp)),
          ih bs h (fun p hp => hl p (by simp [hp]))]
  have := key as bs hl hlen
  rw [← this, List.all_eq_true]

/-- the other exit statuses name the first differing piece of metadata -/
theorem compare_code_metadata (vpEq pcmEq numEq : Bool) (planes : List (List Int)) :
    (vpEq = false → compareCode vpEq pcmEq numEq planes = 1) ∧
    (vpEq = true → pcmEq = false → compareCode vpEq pcmEq numEq planes = 2) ∧
    (vpEq = true → pcmEq = true → numEq = false → compareCode vpEq pcmEq numEq planes = 3) :=
  ⟨fun h => by subst h; rfl, fun h1 h2 => by subst h1 h2; rfl, fun h1 h2 h3 => by subst h1 h2 h3; rfl⟩

/-! ### non-vacuity -/
example : bytesPerSample 10 = 2 ∧ bytesPerSample 17 = 4 ∧ bytesPerSample 33 = 8 ∧ bytesPerSample 64 = 8 ∧
    bytesPerSample 65 = 16 := by decide
example : packSample (bytesPerSample 10) 1023 = [255, 3] ∧ unpackSample 10 [255, 255] = 1023 := by decide
example : PictureOk [⟨2, 1, 10⟩, ⟨1, 1, 3⟩] [[[1023, 5]], [[7]]] := by
  simp [PictureOk, PlaneOk]
example : readPicture [⟨2, 1, 10⟩, ⟨1, 1, 3⟩] (writePicture [⟨2, 1, 10⟩, ⟨1, 1, 3⟩] [[[1023, 5]], [[7]]])
    = [[[1023, 5]], [[7]]] := by decide
example : compareCode true true true [deltas [1, 2] [1, 2], deltas [3] [4]] = 4 ∧
    countNonzero (deltas [3, 5, 9] [4, 5, 8]) = 2 := by decide

end VC2.Props.C23
