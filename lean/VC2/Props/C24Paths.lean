/-
  C24 — the write sets of different worker commands are disjoint.  Property theorems only.
  Model: VC2/Model/WorkerPaths.lean (where a worker command writes), tied to
  scripts/vc2_test_case_generator/cli.py by the `wp` correspondence (every traced write of every real
  worker command is a path the model says that command - and no other - owns).
  With `schedule_independent` (C24.lean) this turns the hypothesis "no two commands write the same
  path" into a consequence of: distinct commands differ in codec, kind or generator; generator names
  contain no '[' (generated registry, C05: `generator_names_distinct`); each command writes only paths
  of its own test cases.
-/
import VC2.Model.WorkerPaths
import VC2.Props.C24
import VC2.Props.C05
namespace VC2.Props.C24
open VC2 VC2.Model.WorkerFs VC2.Model.WorkerPaths

/-- both forms of a test-case name, `g` and `g[subcase]`, are `g` up to the first '[' once a '[' is appended -/
theorem isNameOf_split (g n : List Char) (h : isNameOf g n = true) : ∃ r, n ++ ['['] = g ++ '[' :: r := by
  simp only [isNameOf, Bool.or_eq_true, beq_iff_eq, List.isPrefixOf_iff_prefix] at h
  rcases h with rfl | ⟨r, rfl⟩
  · exact ⟨[], rfl⟩
  · exact ⟨r ++ ['['], by simp⟩

/-- a test-case name (`generator` or `generator[subcase]`) belongs to one generator only -/
theorem name_has_one_generator (g1 g2 n : List Char) (h1 : '[' ∉ g1) (h2 : '[' ∉ g2)
    (a : isNameOf g1 n = true) (b : isNameOf g2 n = true) : g1 = g2 := by
  obtain ⟨r1, e1⟩ := isNameOf_split g1 n a
  obtain ⟨r2, e2⟩ := isNameOf_split g2 n b
  exact (VC2.Props.C05.split_at_first g1 g2 r1 r2 h1 h2 (e1.symm.trans e2)).1

/-- **no path is owned by two different commands**: the bitstream, the expected-picture directory,
    the picture directory and the metadata file of a test case are told apart by the path's shape and
    suffix, and the test-case name in them determines the generator -/
theorem commands_own_disjoint_paths (c1 c2 : Cmd) (p : List (List Char)) (h1 : '[' ∉ c1.gen) (h2 : '[' ∉ c2.gen)
    (o1 : owns c1 p = true) (o2 : owns c2 p = true) : c1 = c2 := by
  unfold owns at o1 o2
  cases hc : classify p with
  | none => simp [hc] at o1
  | some t =>
    obtain ⟨codec, enc, n⟩ := t
    simp only [hc, Bool.and_eq_true, beq_iff_eq] at o1 o2
    obtain ⟨⟨a1, a2⟩, a3⟩ := o1
    obtain ⟨⟨b1, b2⟩, b3⟩ := o2
    have g := name_has_one_generator c1.gen c2.gen n h1 h2 a3 b3
    cases c1; cases c2; simp_all

/-- **the write sets of the worker commands are disjoint**: if every write of a schedule goes to a path
    its command owns (whatever way `parse` reads a path string into components), and different command
    numbers stand for different (codec, kind, generator) triples with bracket-free generator names, then no
    two commands write the same path -/
theorem write_sets_disjoint (cmdOf : Nat → Cmd) (parse : String → List (List Char)) (events : List Event)
    (hinj : ∀ a b, cmdOf a = cmdOf b → a = b)
    (hgen : ∀ e ∈ events, '[' ∉ (cmdOf e.cmd).gen)
    (hown : ∀ e ∈ events, owns (cmdOf e.cmd) (parse e.path) = true) : PathsDisjoint events := by
  intro e1 m1 e2 m2 hp
  apply hinj
  apply commands_own_disjoint_paths _ _ (parse e1.path) (hgen e1 m1) (hgen e2 m2) (hown e1 m1)
  rw [hp]; exact hown e2 m2

/-- **test-case generation is schedule-independent**: any two schedules of the worker commands' writes in
    which every command performs the same writes in the same order leave the same output tree -/
theorem generation_is_schedule_independent (cmdOf : Nat → Cmd) (parse : String → List (List Char)) (fs : Fs) (e1 e2 : List Event)
    (hinj : ∀ a b, cmdOf a = cmdOf b → a = b)
    (hgen : ∀ e ∈ e1, '[' ∉ (cmdOf e.cmd).gen)
    (hown : ∀ e ∈ e1, owns (cmdOf e.cmd) (parse e.path) = true)
    (hsame : ∀ c, ofCmd e1 c = ofCmd e2 c) (p : String) : run fs e1 p = run fs e2 p :=
  schedule_independent fs e1 e2 (write_sets_disjoint cmdOf parse e1 hinj hgen hown) hsame p

/-! the recogniser on concrete paths -/
def dec (g : String) : Cmd := { codec := "cfg".toList, encoder := false, gen := g.toList }
def enc (g : String) : Cmd := { codec := "cfg".toList, encoder := true, gen := g.toList }
def pth (l : List String) : List (List Char) := l.map String.toList

example : owns (dec "padding_data") (pth ["cfg", "decoder", "padding_data[ones].vc2"]) = true := by decide +kernel
example : owns (dec "padding_data") (pth ["cfg", "decoder", "padding_data[ones]_expected", "picture_0.raw"]) = true := by decide +kernel
example : owns (dec "padding_data") (pth ["cfg", "decoder", "padding_data[ones]_metadata.json"]) = true := by decide +kernel
example : owns (dec "padding") (pth ["cfg", "decoder", "padding_data[ones].vc2"]) = false := by decide +kernel
example : owns (enc "signal_range") (pth ["cfg", "encoder", "signal_range[Y]", "picture_3.json"]) = true := by decide +kernel
example : owns (enc "signal_range") (pth ["cfg", "encoder", "signal_range[Y]_metadata.json"]) = true := by decide +kernel
example : owns (dec "signal_range") (pth ["cfg", "encoder", "signal_range[Y]_metadata.json"]) = false := by decide +kernel
example : owns (enc "signal_range") (pth ["other", "encoder", "signal_range[Y]_metadata.json"]) = false := by decide +kernel

end VC2.Props.C24
