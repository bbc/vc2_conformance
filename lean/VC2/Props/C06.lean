/-
  C06 — deserialising then serialising any parseable stream reproduces its bytes.
  Property theorems only.  Models: VC2/Model/Serdes.lean, SerdesCodec.lean (over the C20 model);
  helper lemmas: VC2/Proofs/SerdesComplete.lean.  The tie of bitstream/vc2.py to the framework is
  the API lint and the byte-level round trip of harness/props/c06.py.
-/
import VC2.Proofs.SerdesTree
import VC2.Props.C21
namespace VC2.Props.C06
open VC2 VC2.Model.Serdes VC2.Proofs.Serdes

/-- **deserialise, then serialise, a run of fields**: for every sequence of primitive kinds whose
    codes are canonical and every bit string, if the deserialiser reads values `vs` and stops in
    front of `rest`, the serialiser given `vs` writes exactly the bits that were consumed -/
theorem deserialise_then_serialise_fields (C : Codec) (ks : List Prim) (bits : List Bool) (vs : List Val)
    (rest : List Bool) (hc : ∀ k ∈ ks, CompleteAt C k) (h : desPrims C false ks bits = some (vs, rest)) :
    ∃ used, serPrims C ks vs = some used ∧ bits = used ++ rest := by
  obtain ⟨used, hs, hr⟩ := desPrims_ser C false ks bits vs rest hc h
  exact ⟨used, hs, by simpa [RealOf] using hr⟩

/-- … and inside a bounded block: the values may have been completed by 1-bits from beyond the end of
    the block; the serialiser then writes a code whose stored part is exactly the bits that were there
    and whose part past the end consists of 1-bits only -/
theorem deserialise_then_serialise_fields_in_block (C : Codec) (ks : List Prim) (bits : List Bool) (vs : List Val)
    (rest : List Bool) (hc : ∀ k ∈ ks, CompleteAt C k) (h : desPrims C true ks bits = some (vs, rest)) :
    ∃ used n, serPrims C ks vs = some used ∧ n ≤ used.length ∧ bits = used.take n ++ rest ∧
      (used.drop n).all id = true ∧ (n < used.length → rest = []) := by
  obtain ⟨used, hs, hr⟩ := desPrims_ser C true ks bits vs rest hc h
  unfold RealOf at hr; simp only [if_true] at hr
  obtain ⟨n, h1, h2, h3, h4⟩ := hr
  exact ⟨used, n, hs, h1, h2, h3, h4⟩

/-- **the fixed-width codes are canonical** in the C20 bit model: booleans, n-bit and n-byte
    unsigned integers (parse codes, parse offsets, length fields), bit arrays (padding, unused
    bounded-block bits) and byte strings: whatever bits are read, writing the value read gives
    back exactly those bits -/
theorem fixed_width_codes_canonical :
    CompleteAt bitCodec .bool ∧ (∀ n, CompleteAt bitCodec (.nbits n)) ∧ (∀ n, CompleteAt bitCodec (.uintLit n)) ∧
    (∀ n, CompleteAt bitCodec (.bitarray n)) ∧ (∀ n, CompleteAt bitCodec (.bytes n)) :=
  ⟨bitCodec_complete_bool, bitCodec_complete_nbits, bitCodec_complete_uintLit, bitCodec_complete_bitarray,
   bitCodec_complete_bytes⟩

/-- a bit array / padding value read back is re-written bit for bit, so padding and unused
    bounded-block bits survive the round trip (instance of the above, stated for the record) -/
theorem padding_bits_survive (n : Nat) (bits : List Bool) (v : Leaf) (rest : List Bool)
    (h : bitCodec.dec (.bitarray n) bits = some (v, rest)) :
    ∃ used, bitCodec.enc (.bitarray n) v = some used ∧ bits = used ++ rest :=
  bitCodec_complete_bitarray n bits v rest h

/-- the second half of the property (re-deserialising the output yields an equal description) is
    C21's theorem applied to the re-serialised bits -/
theorem reserialised_output_deserialises_equal (prog : List Stmt) (d : Dict) (bits : List Bool) (used : Dict)
    (h : serialise bitCodec prog d = some (bits, used)) :
    deserialise bitCodec prog bits = some (used, []) := by
  have := VC2.Props.C21.serialise_then_deserialise_bits prog d bits used h []
  simpa using this

/-- **every code of the bit layer is canonical**, including the interleaved exp-Golomb codes of
    `read_uint` / `read_sint`: whatever bits are read, writing the value read gives back exactly
    those bits -/
theorem all_codes_canonical : ∀ k, CompleteAt bitCodec k := by
  intro k
  cases k with
  | bool => exact bitCodec_complete_bool
  | nbits n => exact bitCodec_complete_nbits n
  | uintLit n => exact bitCodec_complete_uintLit n
  | bitarray n => exact bitCodec_complete_bitarray n
  | bytes n => exact bitCodec_complete_bytes n
  | uint => exact bitCodec_complete_uint
  | sint => exact bitCodec_complete_sint

/-- **C06 on the framework model**: for every description program (nested sub-descriptions, lists
    of values and of sub-descriptions, bounded blocks — with their trailing unused bits, or with values
    that run past the end of the block and are completed by 1-bits —, byte alignment, computed values) and every bit string, if the deserialiser parses `bits` into the description `d`
    and stops in front of `rest`, then serialising `d` with the same program succeeds, uses `d` up
    (`verify_complete`), and writes exactly the bits that were consumed -/
theorem deserialise_then_serialise (prog : List Stmt) (bits : List Bool) (d : Dict) (rest : List Bool)
    (h : deserialise bitCodec prog bits = some (d, rest)) :
    ∃ used, serialise bitCodec prog d = some (used, d) ∧ bits = used ++ rest := by
  obtain ⟨used, hb, hs⟩ := whole_body bitCodec (desBody_ser bitCodec all_codes_canonical prog false 0 [] bits d rest h)
  exact ⟨used, by simp [serialise, hs], hb⟩

/-- … and the two halves together: the re-serialised bits deserialise to the same description -/
theorem round_trip_is_stable (prog : List Stmt) (bits : List Bool) (d : Dict)
    (h : deserialise bitCodec prog bits = some (d, [])) :
    ∃ out, serialise bitCodec prog d = some (out, d) ∧ out = bits ∧
      deserialise bitCodec prog out = some (d, []) := by
  obtain ⟨used, hs, hb⟩ := deserialise_then_serialise prog bits d [] h
  refine ⟨used, hs, by simpa using hb.symm, ?_⟩
  exact reserialised_output_deserialises_equal prog d used d hs

/-! ### non-vacuity -/
example : bitCodec.dec (.uintLit 1) [true, false, true, true, false, false, true, false, true, true]
    = some (.int 178, [true, true]) := by decide +kernel
example : (desPrims bitCodec false [.bool, .nbits 3, .bitarray 2] [true, true, false, true, false, true, true]).map (·.2)
    = some [true] := by decide +kernel
-- a nested program with exp-Golomb fields, a bounded block with two unused bits and byte alignment
def prog1 : List Stmt := [.prim "n" .uint, .block "unused" 6 [.prim "a" .sint], .align "al", .sub "s" [.prim "b" (.nbits 2)]]
def bits1 : List Bool := [false, true, true,  false, false, true, true,  true, false,  false, false, false, false, false, false, false,  true, false, true]
example : (deserialise bitCodec prog1 bits1).map (·.2) = some [true] := by decide +kernel
example : (deserialise bitCodec prog1 bits1).bind (fun r => (serialise bitCodec prog1 r.1).map (·.1)) = some (bits1.take 18) := by
  decide +kernel
-- a block that ends inside its contents: the three signed values of a 5-bit block are 1, -2 and 0 (the
-- sign of the second and the whole third value come from beyond the end); re-serialising gives the 7 bits back
def prog2 : List Stmt := [.block "pad" 5 [.primList "c" [.sint, .sint, .sint]], .prim "after" (.nbits 2)]
example : ((deserialise bitCodec prog2 [false, false, true, false, false, true, false]).bind
    (fun r => serialise bitCodec prog2 r.1)).map (·.1) = some [false, false, true, false, false, true, false] := by
  decide +kernel

end VC2.Props.C06
