/-
  C20 — Bit-level readers and writers agree on every primitive.
  Model: VC2/Model/BitIO.lean (hand-written, tied to bitstream/io.py and decoder/io.py by the
  `io` correspondence); length functions: generated from bitstream/exp_golomb.py.
  All values are unbounded integers; all streams are arbitrary bit lists.
-/
import VC2.Proofs.BitIO
import VC2.Model.BitIOSeek
set_option linter.unusedVariables false
namespace VC2.Props.C20
open VC2 VC2.Gen VC2.Model.BitIO VC2.Proofs.BitIO

/-- a fresh reader / validator reader positioned behind `pre` on the stream `pre ++ mid ++ suf` -/
def readerAt (pre mid suf : List Bool) : Reader := { all := pre ++ (mid ++ suf), pos := pre.length }
def dreaderAt (pre mid suf : List Bool) (bl : Int) : DReader :=
  { all := pre ++ (mid ++ suf), pos := pre.length, bitsLeft := bl }

/-- **unsigned exp-Golomb**: what `write_uint v` appends has exactly `exp_golomb_length v` bits,
    and both `BitstreamReader.read_uint` and the validator's `read_uint` read `v` back from it
    and stop exactly behind it — whatever precedes and follows. -/
theorem uint_roundtrip (v : Int) (hv : 0 ≤ v) (pre suf : List Bool) (bl : Int) :
    ∃ bits : List Bool,
      Writer.writeUint { out := pre } v = .ok { out := pre ++ bits } ∧
      (bits.length : Int) = exp_golomb_length v ∧
      (∃ r', (readerAt pre bits suf).readUint = .ok (v, r') ∧ r'.pos = pre.length + bits.length
              ∧ r'.all = pre ++ (bits ++ suf)) ∧
      (∃ d', (dreaderAt pre bits suf bl).readUintG false = .ok (v, d') ∧ d'.pos = pre.length + bits.length) := by
  obtain ⟨n, rfl⟩ : ∃ n : Nat, v = n := ⟨v.toNat, by omega⟩
  have e := readUint_free n (suf := suf) (List.drop_left (l₁ := pre))
  obtain ⟨d', e', hs⟩ := (sim0_readUint _ (dreaderAt pre (encodeUint n) suf bl) ⟨rfl, rfl, rfl⟩).ok e
  exact ⟨_, writeUint_free n _ rfl, (exp_golomb_length_eq n).symm, ⟨_, e, rfl, rfl⟩, d', e', hs.2.1.symm⟩

/-- **signed exp-Golomb**, likewise. -/
theorem sint_roundtrip (v : Int) (pre suf : List Bool) (bl : Int) :
    ∃ bits : List Bool,
      Writer.writeSint { out := pre } v = .ok { out := pre ++ bits } ∧
      (bits.length : Int) = signed_exp_golomb_length v ∧
      (∃ r', (readerAt pre bits suf).readSint = .ok (v, r') ∧ r'.pos = pre.length + bits.length) ∧
      (∃ d', (dreaderAt pre bits suf bl).readSintG false = .ok (v, d') ∧ d'.pos = pre.length + bits.length) := by
  have e := readSint_free v (suf := suf) (List.drop_left (l₁ := pre))
  obtain ⟨d', e', hs⟩ := (sim0_readSint _ (dreaderAt pre (encodeSint v) suf bl) ⟨rfl, rfl, rfl⟩).ok e
  exact ⟨_, writeSint_free v _ rfl, (signed_exp_golomb_length_eq v).symm, ⟨_, e, rfl⟩, d', e', hs.2.1.symm⟩

/-- **fixed-width integers** (`write_nbits`/`read_nbits`, hence `*_uint_lit` with `8·n`):
    an in-range value is read back by both readers, `k` bits further on. -/
theorem nbits_roundtrip (k : Nat) (v : Int) (hv : 0 ≤ v) (hfit : bitLength v ≤ k)
    (pre suf : List Bool) (bl : Int) :
    ∃ bits : List Bool, bits.length = k ∧
      Writer.writeNbits { out := pre } k v = .ok { out := pre ++ bits } ∧
      (∃ r', (readerAt pre bits suf).readNbits k = .ok (v.toNat, r') ∧ r'.pos = pre.length + k) ∧
      (∃ d', (dreaderAt pre bits suf bl).readNbits k = .ok (v.toNat, d') ∧ d'.pos = pre.length + k) := by
  obtain ⟨n, rfl⟩ : ∃ n : Nat, v = n := ⟨v.toNat, by omega⟩
  have hlt := (bitLength_le_iff n k).1 hfit
  have e := readNbits_free k n hlt (suf := suf) (List.drop_left (l₁ := pre))
  obtain ⟨d', e', hs⟩ := (sim0_readNbits k _ (dreaderAt pre (nbitsOf n k) suf bl) ⟨rfl, rfl, rfl⟩).ok e
  rw [Int.toNat_natCast]
  exact ⟨_, nbitsOf_length n k, writeNbits_free k n hlt _ rfl, ⟨_, e, rfl⟩, d', e', hs.2.1.symm⟩

/-- **bit arrays / byte strings** (`write_bitarray`/`read_bitarray`; bytes are `8·n` bits):
    a value of the requested length is read back bit for bit; a shorter one comes back
    right-padded with zeros (the documented behaviour). -/
theorem bitarray_roundtrip (k : Nat) (value : List Bool) (hlen : value.length ≤ k)
    (pre suf : List Bool) :
    let bits := value ++ List.replicate (k - value.length) false
    Writer.writeBitarray { out := pre } k value = .ok { out := pre ++ bits } ∧
    ∃ r', Reader.readBits k (readerAt pre bits suf) = .ok (bits, r') ∧ r'.pos = pre.length + k := by
  intro bits
  have hl : bits.length = k := by simp [bits]; omega
  have e := readBits_free bits (suf := suf) (List.drop_left (l₁ := pre))
  rw [hl] at e
  exact ⟨writeBitarray_free k value hlen _ rfl, _, e, rfl⟩

/-- **out-of-range values are rejected before anything is written**: the model's writer
    returns the error alone (the correspondence compares the real file contents after it). -/
theorem out_of_range_rejected (w : Writer) :
    (∀ v : Int, v < 0 → w.writeUint v = .error .outOfRange) ∧
    (∀ (k v : Int), v < 0 ∨ bitLength v > k → w.writeNbits k v = .error .outOfRange) ∧
    (∀ (k : Int) (bs : List Bool), (bs.length : Int) > k → w.writeBitarray k bs = .error .outOfRange) := by
  refine ⟨?_, ?_, ?_⟩
  · intro v hv; unfold Writer.writeUint; simp [hv]
  · intro k v h; unfold Writer.writeNbits; simp [h]
  · intro k bs h; unfold Writer.writeBitarray; simp [h]

/-- **bounded blocks, reader**: past the end every read is a 1 and the position does not move. -/
theorem read_past_block_end (r : Reader) (n : Int) (h : r.rem = some n) (hn : n ≤ 0) :
    r.readBit = .ok (true, { r with rem := some (n - 1) }) := by
  unfold Reader.readBit; rw [h]; simp only
  have : n - 1 ≤ -1 := by omega
  rw [if_pos this]

/-- **bounded blocks, writer**: past the end a 1 is accepted and dropped, a 0 is rejected. -/
theorem write_past_block_end (w : Writer) (n : Int) (h : w.rem = some n) (hn : n ≤ 0) :
    w.writeBit true = .ok { w with rem := some (n - 1) } ∧
    w.writeBit false = .error .zeroPastEnd := by
  have : n - 1 ≤ -1 := by omega
  unfold Writer.writeBit; rw [h]; simp [this]

/-- inside the block both behave as outside it -/
theorem read_inside_block (r : Reader) (n : Int) (h : r.rem = some n) (hn : 0 < n) :
    r.readBit = ({ r with rem := some (n - 1) } : Reader).rawBit := by
  unfold Reader.readBit; rw [h]; simp only
  have : ¬ (n - 1 ≤ -1) := by omega
  rw [if_neg this]

/-- **the two readers agree on every bit string** inside a bounded block of any length `n ≥ 0`
    (the validator's `bits_left = n`): same values, same positions, same end-of-stream failures,
    for `read_bit(b)`, `read_uint(b)`, `read_sint(b)` — and this is preserved along any sequence
    of such reads (`Sim` relates the successor states again). -/
theorem readers_agree (all : List Bool) (pos : Nat) (n : Int) (hn : 0 ≤ n) :
    let r : Reader := { all := all, pos := pos, rem := some n }
    let d : DReader := { all := all, pos := pos, bitsLeft := n }
    Sim r d ∧ Agree r.readBit d.readBitb ∧ Agree r.readUint (d.readUintG true) ∧
      Agree r.readSint (d.readSintG true) := by
  intro r d
  have hs : Sim r d := ⟨rfl, rfl, n, rfl, by simp [d]; omega⟩
  exact ⟨hs, sim_readBit r d hs, sim_readUint r d hs, sim_readSint r d hs⟩

/-- agreement is an invariant: from any related pair of states, each primitive again agrees -/
theorem readers_agree_step (r : Reader) (d : DReader) (h : Sim r d) :
    Agree r.readBit d.readBitb ∧ Agree r.readUint (d.readUintG true) ∧
    Agree r.readSint (d.readSintG true) :=
  ⟨sim_readBit r d h, sim_readUint r d h, sim_readSint r d h⟩

/-- the validator never drives `bits_left` negative (so its `== 0` test is adequate); a
    *negative* block length is treated as exhausted by the bitstream reader only. -/
theorem bits_left_stays_nonneg (d d' : DReader) (b : Bool) (h0 : 0 ≤ d.bitsLeft)
    (h : d.readBitb = .ok (b, d')) : 0 ≤ d'.bitsLeft :=
  (readBitb_nonneg d d' b h0 h).1

/-- the model's iteration budget for the exp-Golomb loop is never the reason for a failure -/
theorem read_uint_total (r : Reader) : r.readUint ≠ .error .fuel := readUint_no_fuel_error r

/-- **tell/seek arithmetic** (generated from `to_bit_offset`/`from_bit_offset`): inverse maps -/
theorem bit_offset_inverse (bytes bits t : Int) (hb : 0 ≤ bits ∧ bits ≤ 7) :
    from_bit_offset (to_bit_offset bytes bits) = (bytes, bits) ∧
    to_bit_offset (from_bit_offset t).1 (from_bit_offset t).2 = t := by
  unfold from_bit_offset to_bit_offset
  simp only [pydiv_pos _ 8 (by decide), pymod_pos _ 8 (by decide)]
  constructor
  · ext <;> simp <;> omega
  · omega

/-- non-vacuity: concrete encodings -/
example : encodeUint 5 = [false, true, false, false, true] ∧ exp_golomb_length 5 = 5 := by decide
example : encodeSint (-3) = [false, false, false, false, true, true] ∧
    signed_exp_golomb_length (-3) = 6 := by decide
example : (({ all := [true, false, true, true], pos := 1, rem := some 2 } : Reader).readSint).toOption.map (·.1)
    = some (-2) := by decide

/-! ### the writer with seeks (`Model/BitIOSeek.lean`, tied by the `ws` correspondence) -/
section Seek
open VC2.Model.BitIOSeek

/-- after a successful `seek(bytes, bits)` the writer reports exactly that position -/
theorem writer_tell_after_seek (w w' : WS) (bytes bits : Nat) (h : w.seek bytes bits = .ok w') :
    w'.tell = (bytes, bits) := by
  unfold WS.seek at h
  simp only [bind, Except.bind] at h
  cases hb : blockSeek w.rem (bitOffset bytes bits - bitOffset w.off w.next) with
  | error e => rw [hb] at h; cases h
  | ok r => rw [hb] at h; simp only [pure, Except.pure] at h; cases h; rfl

/-- in a block that is not exhausted the counter just moves with the position, unless the target
    lies beyond the block's end -/
theorem blockSeek_pos {n : Int} (hn : 0 < n) (delta : Int) :
    blockSeek (some n) delta =
      if delta > 0 ∧ n - delta < 0 then .error .seekPastEnd else .ok (some (n - delta)) := by
  simp only [blockSeek]
  rw [if_neg (show ¬ (n ≤ 0 ∧ delta = 0) by omega), if_neg (show ¬ (n < 0 ∧ delta < 0) by omega)]

/-- the reader's `seek` is the move to the new offset together with `blockSeek` on its counter -/
theorem seek_eq (r : Reader) (bytes bits : Nat) :
    r.seek bytes bits = (blockSeek r.rem (((bytes * 8 + (7 - bits) : Nat) : Int) - r.pos)).map
      fun rem => { r with pos := bytes * 8 + (7 - bits), rem := rem } := by
  obtain ⟨all, pos, rem⟩ := r
  cases rem with
  | none => simp only [Reader.seek, blockSeek, Int.toNat_natCast, Except.map]
  | some n =>
    simp only [Reader.seek, blockSeek, Int.toNat_natCast]
    generalize (((bytes * 8 + (7 - bits) : Nat) : Int) - (pos : Int)) = delta
    by_cases h1 : delta > 0 ∧ n - delta < 0
    · rw [if_pos h1, if_pos h1]; rfl
    rw [if_neg h1, if_neg h1]
    by_cases h2 : n ≤ 0 ∧ delta = 0
    · rw [if_pos h2, if_pos h2]; rfl
    rw [if_neg h2, if_neg h2]
    by_cases h3 : n < 0 ∧ delta < 0
    · rw [if_pos h3, if_pos h3]; rfl
    rw [if_neg h3, if_neg h3]; rfl

theorem seek_ok {r r' : Reader} {bytes bits : Nat} (h : r.seek bytes bits = .ok r') :
    blockSeek r.rem (((bytes * 8 + (7 - bits) : Nat) : Int) - r.pos) = .ok r'.rem ∧
      r'.pos = bytes * 8 + (7 - bits) := by
  rw [seek_eq] at h
  cases hb : blockSeek r.rem (((bytes * 8 + (7 - bits) : Nat) : Int) - r.pos) with
  | error e => rw [hb] at h; cases h
  | ok rem => rw [hb] at h; cases h; exact ⟨rfl, rfl⟩

/-- the bounded-block accounting of a seek is the same function in the writer and in the reader:
    the reader's `seek` leaves `blockSeek` of its counter and of the distance moved -/
theorem seek_accounting_shared (r r' : Reader) (bytes bits : Nat) (h : r.seek bytes bits = .ok r') :
    blockSeek r.rem (((bytes * 8 + (7 - bits) : Nat) : Int) - r.pos) = .ok r'.rem :=
  (seek_ok h).1

/-- **seek inside a bounded block keeps the block's end where it was**:
    position + bits_remaining is unchanged (for a block that is not yet exhausted). -/
theorem seek_preserves_block_end (r r' : Reader) (n : Int) (bytes bits : Nat)
    (h : r.rem = some n) (hn : 0 < n) (hs : r.seek bytes bits = .ok r') :
    ∃ n', r'.rem = some n' ∧ (r'.pos : Int) + n' = r.pos + n ∧
      r'.pos = bytes * 8 + (7 - bits) := by
  obtain ⟨hb, hp⟩ := seek_ok hs
  rw [h, blockSeek_pos hn] at hb
  split at hb
  · cases hb
  · injection hb with hb
    exact ⟨_, hb.symm, by rw [hp]; omega, hp⟩

/-- inside a block with room left, seeking backwards gives the room back: the counter grows by the
    distance (so bits may again be written where the block has not ended) -/
theorem seek_back_inside_block (n delta : Int) (hn : 0 < n) (hd : delta < 0) :
    blockSeek (some n) delta = .ok (some (n - delta)) := by
  rw [blockSeek_pos hn, if_neg (by omega)]

example : (({} : WS).writeNbits 8 165 >>= fun w => w.writeUint 1 >>= fun w => w.seek 1 7 >>= fun w => w.writeUint 2).toOption.map
    (fun w => (w.flush.file, w.tell)) = some ([165, 96], (1, 4)) := by decide

end Seek

/-! ## byte strings -/

theorem write_bytes_fold : ∀ (bs : List Nat) (o : List Bool), (∀ b ∈ bs, b < 256) →
    bs.foldlM (fun (w : Writer) (b : Nat) => w.writeNbits 8 (b : Int)) ({ out := o } : Writer) =
      .ok { out := o ++ bs.flatMap (fun b => nbitsOf b 8) }
  | [], o, _ => by simp [List.foldlM]; rfl
  | b :: bs, o, h => by
    rw [List.foldlM_cons, show Writer.writeNbits { out := o } 8 (b : Int) = _ from
      writeNbits_free 8 b (h b List.mem_cons_self) _ rfl]
    simp only [bind, Except.bind]
    rw [write_bytes_fold bs _ (fun x hx => h x (List.mem_cons_of_mem _ hx))]
    simp [List.flatMap_cons, List.append_assoc]

/-- **write_bytes**: a byte string no longer than `n` is written byte by byte, most significant bit first, and
    zero-padded on the right to exactly `n` bytes; a longer one is refused -/
theorem bytes_written (n : Nat) (bs : List Nat) (hb : ∀ b ∈ bs, b < 256) (pre : List Bool) :
    (bs.length ≤ n →
      ∃ bits, bits.length = 8 * n ∧ bits = (bs ++ List.replicate (n - bs.length) 0).flatMap (fun b => nbitsOf b 8) ∧
        Writer.writeBytes { out := pre } n bs = .ok { out := pre ++ bits }) ∧
    (n < bs.length → Writer.writeBytes { out := pre } n bs = .error .outOfRange) := by
  constructor
  · intro hl
    refine ⟨_, ?_, rfl, ?_⟩
    · have : ∀ (l : List Nat), (l.flatMap (fun b => nbitsOf b 8)).length = 8 * l.length := by
        intro l; induction l with
        | nil => rfl
        | cons a l ih => simp [List.flatMap_cons, nbitsOf_length, ih]; omega
      rw [this]; simp; omega
    · unfold Writer.writeBytes
      rw [if_neg (by omega)]
      apply write_bytes_fold
      intro b hbm
      rcases List.mem_append.1 hbm with h | h
      · exact hb b h
      · have := List.eq_of_mem_replicate h; omega
  · intro hl
    unfold Writer.writeBytes
    rw [if_pos hl]


end VC2.Props.C20
