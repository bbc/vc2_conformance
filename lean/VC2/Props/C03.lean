/-
  C03 — the encoder's output is always a conformant stream in the requested format.
  Property theorems only.  PARTIAL: proved here is the STRUCTURE of a fragmented picture as the
  encoder lays it out (Model/EncoderSeq.lean, compared fragment header by fragment header with
  make_fragment_parse_data_units) against the validator's stream-structure model (C01): the
  validator accepts every fragment, the picture is complete exactly at the last fragment and is
  output once.  The other ingredients are separate theorems: the data-unit ordering search is sound
  (C19), automatic offsets/numbers/version satisfy the validator's rules (C07), slice sizes (C14),
  sequence headers (C15), geometry (C13).  Their composition into make_sequence is validated end to
  end (random configurations through the real encoder, serialiser and validator), not proved.
-/
import VC2.Model.EncoderSeq
import VC2.Props.C01
import VC2.Props.C14
namespace VC2.Props.C03
open VC2 VC2.Model.Stream VC2.Proofs.Stream VC2.Model.EncoderSeq

/-- a slice-bearing fragment data unit as the encoder emits it -/

def fragUnit (num : Nat) (t : Nat × Nat × Nat) : DUnit :=
  { kind := .fragment, code := 236, len := 20, next := 20, prev := 20, picNum := num, sliceCount := t.1, fx := t.2.1, fy := t.2.2 }

def runFrags : VState → List DUnit → Except Err VState
  | s, [] => .ok s
  | s, u :: us => match dataFragment s u with
    | .ok s1 => runFrags s1 us
    | .error e => .error e

/-- the next fragment in raster order with at most the outstanding number of slices is accepted;
    what the rest of the picture needs to know of the state it leaves -/
theorem dataFragment_fragUnit (s : VState) (num r c sx : Nat) (hrem : s.fragRemaining ≠ 0)
    (hc : c ≤ s.fragRemaining) (hrec : s.fragReceived = some r) (hx : s.slicesX = some sx) (hsx : sx ≠ 0)
    (hnum : s.lastPicNum = some num) :
    ∃ s1, dataFragment s (fragUnit num (c, r % sx, r / sx)) = .ok s1 ∧
      s1.fragReceived = some (r + c) ∧ s1.fragRemaining = s.fragRemaining - c ∧
      s1.slicesX = s.slicesX ∧ s1.slicesY = s.slicesY ∧ s1.lastPicNum = s.lastPicNum ∧
      s1.decoded = if r + c = sx * (s.slicesY.getD 0) then s.decoded ++ [num] else s.decoded :=
  ⟨_, (dataFragment_ok_iff ..).2 ⟨hrem, hnum, hc, r, sx, hrec, hx, hsx, rfl, rfl, rfl⟩, rfl, rfl, rfl, rfl, rfl,
    by simp only [decide_eq_true_eq]; rfl⟩

theorem fragsFrom_of_le (sx n fc fuel start : Nat) (h : n ≤ start) : fragsFrom sx n fc fuel start = [] := by
  cases fuel with
  | zero => rfl
  | succ fuel => rw [fragsFrom, if_neg (Nat.not_lt.2 h)]

/-- **every fragment layout the encoder produces is accepted**: for all slice counts `n = sx × sy`
    (sx ≥ 1) and every fragment size ≥ 1, starting anywhere in the picture, the validator model accepts
    each slice-bearing fragment in turn (contiguous raster-order offsets, never too many slices), ends
    with no slices outstanding and outputs the picture exactly once -/
theorem frags_accepted (sx sy fc num n : Nat) (hn : n = sx * sy) (hsx : sx ≠ 0) (hfc : 1 ≤ fc) :
    ∀ (fuel m start : Nat) (s : VState), m ≤ fuel → start + m = n →
      s.fragRemaining = m → s.fragReceived = some start →
      s.slicesX = some sx → s.slicesY = some sy → s.lastPicNum = some num →
      ∃ s', runFrags s ((fragsFrom sx n fc fuel start).map (fragUnit num)) = .ok s' ∧
        s'.fragRemaining = 0 ∧
        s'.decoded = (if m = 0 then s.decoded else s.decoded ++ [num]) := by
  intro fuel
  induction fuel with
  | zero =>
    intro m start s hf _ hrem _ _ _ _
    cases Nat.le_zero.1 hf
    exact ⟨s, rfl, hrem, rfl⟩
  | succ fuel ih =>
    intro m start s hf hsum hrem hrec hx hy hnum
    rw [fragsFrom]
    cases m with
    | zero => rw [if_neg (by omega)]; exact ⟨s, rfl, hrem, rfl⟩
    | succ m =>
      rw [if_pos (by omega), show n - start = m + 1 by omega, if_neg (Nat.succ_ne_zero m), List.map_cons, runFrags]
      by_cases hfin : fc ≤ m
      · -- a full fragment, and more to come: the picture is output later
        obtain ⟨s1, h1, e1, e2, e3, e4, e5, e6⟩ :=
          dataFragment_fragUnit s num start fc sx (by omega) (by omega) hrec hx hsx hnum
        rw [Nat.min_eq_left (by omega), h1]
        obtain ⟨s', hrun, hz, hdec⟩ := ih (m + 1 - fc) (start + fc) s1 (by omega) (by omega) (by omega) e1
          (e3.trans hx) (e4.trans hy) (e5.trans hnum)
        refine ⟨s', hrun, hz, ?_⟩
        rw [hdec, e6, if_neg (by omega), hy, Option.getD_some, ← hn, if_neg (by omega)]
      · -- the last fragment takes what is left and completes the picture
        obtain ⟨s1, h1, e1, e2, e3, e4, e5, e6⟩ :=
          dataFragment_fragUnit s num start (m + 1) sx (by omega) (by omega) hrec hx hsx hnum
        rw [Nat.min_eq_right (by omega), fragsFrom_of_le _ _ _ _ _ (by omega), List.map_nil, h1]
        refine ⟨s1, rfl, by omega, ?_⟩
        rw [e6, hy, Option.getD_some, ← hn, if_pos hsum]

/-- from the state left by the first (slice-less) fragment: the whole picture goes through -/
theorem encoder_fragmented_picture_accepted (sx sy fc num : Nat) (hsx : 1 ≤ sx) (hsy : 1 ≤ sy) (hfc : 1 ≤ fc)
    (s : VState) (hrem : s.fragRemaining = sx * sy) (hrec : s.fragReceived = some 0)
    (hx : s.slicesX = some sx) (hy : s.slicesY = some sy) (hnum : s.lastPicNum = some num) :
    ∃ s', runFrags s ((fragmentLayout sx sy fc).tail.map (fragUnit num)) = .ok s' ∧
      s'.fragRemaining = 0 ∧ s'.decoded = s.decoded ++ [num] := by
  obtain ⟨s', h1, h2, h3⟩ := frags_accepted sx sy fc num (sx * sy) rfl (by omega) hfc (sx * sy) (sx * sy) 0 s
    (Nat.le_refl _) (Nat.zero_add _) hrem hrec hx hy hnum
  exact ⟨s', by simpa [fragmentLayout] using h1, h2, by rw [h3, if_neg (Nat.mul_ne_zero (by omega) (by omega))]⟩

/-- **the lossless encoder's length fields are serialisable**: 8-bit fields, for every set of
    slices and every coefficient content (C14's theorem, needed here for 'serialising … yields a stream') -/
theorem lossless_length_fields_fit (minScaler : Int) (slices : List VC2.Model.SliceFit.SliceIn) :
    let r := VC2.Model.SliceFit.hqLossless minScaler slices
    1 ≤ r.1 ∧ minScaler ≤ r.1 ∧
    ∀ hs ∈ r.2, 0 ≤ hs.yLen ∧ hs.yLen ≤ 255 ∧ 0 ≤ hs.c1Len ∧ hs.c1Len ≤ 255 ∧ 0 ≤ hs.c2Len ∧ hs.c2Len ≤ 255 :=
  VC2.Props.C14.hq_lossless_lengths_fit_8_bits minScaler slices

/-- the first fragment carries no slices and sits at offset (0, 0) -/
theorem first_fragment_has_no_slices (sx sy fc : Nat) : (fragmentLayout sx sy fc).head? = some (0, 0, 0) := rfl

example : fragmentLayout 3 2 4 = [(0, 0, 0), (4, 0, 0), (2, 1, 1)] := by decide
example : fragmentLayout 2 2 1 = [(0, 0, 0), (1, 0, 0), (1, 1, 0), (1, 0, 1), (1, 1, 1)] := by decide
example : fragmentLayout 2 1 9 = [(0, 0, 0), (2, 0, 0)] := by decide

end VC2.Props.C03
