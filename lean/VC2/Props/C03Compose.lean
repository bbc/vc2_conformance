/-
  C03 / C07 / C01 composed: the encoder's plain sequence, filled in by the autofill passes, is accepted by
  the validator.  Property theorem only (lemmas: VC2/Proofs/EncoderCompose.lean; definitions:
  VC2/Model/EncoderCompose.lean).
-/
import VC2.Proofs.EncoderCompose
namespace VC2.Props.C03
open VC2 VC2.Model.Autofill VC2.Model.Stream VC2.Model.StreamSpec VC2.Model.StreamRules VC2.Proofs.Autofill
open VC2.Model.EncoderCompose VC2.Proofs.EncoderCompose

/-- **the encoder's plain sequence, filled in automatically, is accepted by the validator**: for either
    profile, frame or field coding (an even number of fields), any number of pictures and any serialised
    lengths (each data unit at least its 13-byte parse-info header): the sequence header, the pictures and the
    end of sequence with AUTOMATIC picture numbers, parse offsets and major version satisfy every stream rule
    - hence the validator model accepts them - as soon as the level's ordering pattern admits the sequence
    (which is what make_matching_sequence establishes, C19) -/
theorem autofilled_plain_sequence_is_accepted (cfg : Config) (p pcm h : Nat) (ls : List Nat)
    (hp : p = 0 ∨ p = 3) (hh : 13 ≤ h) (hl : ∀ l ∈ ls, 13 ≤ l) (hev : pcm = 1 → ls.length % 2 = 0)
    (hpat : patternsRule cfg none ((autofillSeq (plainSeq p h ls)).map (toD pcm)) = true) :
    (validate cfg ((autofillSeq (plainSeq p h ls)).map (toD pcm))).1 = .ok := by
  rw [stream_closed] at hpat ⊢
  have hmv : ((hdrD p pcm h).majorVersion : Int) = mvOf p := mvOf_toNat p
  have hwf : VC2.Props.C01.WellFormed (hdrD p pcm h :: filledD p pcm h (M32 - 1) ls) := by
    refine ⟨fun u hu => ?_, agree_body p pcm _ ls _ _⟩
    rcases List.mem_cons.1 hu with rfl | hu
    · exact Bool.and_eq_true_iff.2 ⟨rfl, decide_eq_true hh⟩
    · exact wf_body p pcm ls _ _ hl u hu
  rw [VC2.Props.C01.validator_accepts_iff_all_rules cfg _ hwf]
  -- each rule takes the header by computation and then meets its `_body` lemma
  refine ⟨shape_body p pcm ls _ _, ?_, ?_, ?_, ?_, fragments_body cfg p pcm ls _ _, ?_, hpat⟩
  · exact Bool.and_eq_true_iff.2 ⟨decide_eq_true hh, offsets_body p pcm ls h _ hl⟩
  · have hq : profileNeed (hdrD p pcm h).profile ≤ ((hdrD p pcm h).majorVersion : Int) := hmv ▸ pymax_ge_right _ _
    exact Bool.and_eq_true_iff.2 ⟨decide_eq_true hq, headers_body p pcm _ ls _ _⟩
  · exact codes_body p pcm (hdrD p pcm h) hp rfl (hmv ▸ mvOf_ge_one p) ls _ _
  · exact numbers_body p pcm (hdrD p pcm h) rfl ls h (M32 - 1) 0 none (Or.inl rfl) rfl (by rwa [Nat.zero_add])
  · have c : pymax VC2.Gen.MINIMUM_MAJOR_VERSION (codeNeed 0) = VC2.Gen.MINIMUM_MAJOR_VERSION := by decide
    exact version_body p pcm _ (pymax (pymax _ (codeNeed 0)) (profileNeed p)) (by rw [hmv, c]; exact Int.le_refl _) ls _ _ _


/-! non-vacuity: an unconstrained level (`.*`), three HQ frames / two LD fields; an odd number of fields is rejected -/
def anyLevel : Config := { slicesX := 1, slicesY := 1, levelPattern := .star (.sym ".") }
example : (validate anyLevel ((autofillSeq (plainSeq 3 30 [50, 60, 70])).map (toD 0))).1 = .ok := by decide +kernel
example : (validate anyLevel ((autofillSeq (plainSeq 0 30 [50, 60])).map (toD 1))).1 = .ok := by decide +kernel
example : (validate anyLevel ((autofillSeq (plainSeq 0 30 [50, 60, 70])).map (toD 1))).1 ≠ .ok := by decide +kernel
example : patternsRule anyLevel none ((autofillSeq (plainSeq 3 30 [50, 60, 70])).map (toD 0)) = true := by decide +kernel

end VC2.Props.C03
