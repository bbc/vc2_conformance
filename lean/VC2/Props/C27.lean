/-
  C27 — Fixed-entry dictionaries never hold undeclared keys and pickle faithfully.
  Model: VC2/Model/FixedDict.lean, tied to fixeddict.py by the `fd` correspondence over the
  library's fixeddict types; which `dict` key-adding operations the generated classes override is
  read from the running code on every run (VC2.Gen.fixeddictGuards).
-/
import VC2.Model.FixedDict
import VC2.Proofs.AssocList
import VC2.Gen.Tables
namespace VC2.Props.C27
open VC2 VC2.Model.FixedDict

/-- only declared keys are held -/
def Inv (d : FD) : Prop := ∀ kv ∈ d.items, kv.1 ∈ d.declared

theorem mem_rawSet (it : Items) (k : String) (v : Int) (kv : String × Int) (h : kv ∈ rawSet it k v) :
    kv ∈ it ∨ kv.1 = k := by
  unfold rawSet at h
  split at h
  · rw [List.mem_map] at h
    obtain ⟨x, hx, hxe⟩ := h
    split at hxe
    · right; rw [← hxe]
    · left; rw [← hxe]; exact hx
  · rw [List.mem_append, List.mem_singleton] at h
    rcases h with h | h
    · exact Or.inl h
    · right; rw [h]

/-- what every operation does to the object: the declared keys stay, and so does the invariant -/
def Keeps (d d' : FD) : Prop := d'.declared = d.declared ∧ (Inv d → Inv d')

theorem Keeps.refl (d : FD) : Keeps d d := ⟨rfl, id⟩

theorem Keeps.trans {a b c : FD} (h1 : Keeps a b) (h2 : Keeps b c) : Keeps a c :=
  ⟨h2.1.trans h1.1, fun h => h2.2 (h1.2 h)⟩

/-- an operation that hands back a new object or fails, as `FD.apply` reads it -/
theorem Keeps.of_except {d : FD} : ∀ {r : Except Err FD}, (∀ d', r = .ok d' → Keeps d d') →
    Keeps d (match r with | .ok d' => (d', none) | .error e => (d, some e) : FD × Option Err).1
  | .ok d', h => h d' rfl
  | .error _, _ => Keeps.refl d

theorem set_keeps (d d' : FD) (k : String) (v : Int) (h : d.set k v = .ok d') : Keeps d d' := by
  unfold FD.set at h
  split at h
  · next hk =>
    cases h
    refine ⟨rfl, fun hinv kv hkv => ?_⟩
    rcases mem_rawSet _ _ _ _ hkv with h | h
    · exact hinv kv h
    · rw [h]; simpa using hk
  · cases h

theorem setdefault_keeps (d d' : FD) (k : String) (v : Int) (h : d.setdefault k v = .ok d') : Keeps d d' := by
  unfold FD.setdefault at h
  split at h
  · next hk =>
    cases h
    split
    · exact Keeps.refl d
    · refine ⟨rfl, fun hinv kv hkv => ?_⟩
      rcases List.mem_append.1 hkv with h | h
      · exact hinv kv h
      · rw [List.mem_singleton.1 h]; simpa using hk
  · cases h

theorem update_keeps : ∀ (kvs : Items) (d : FD), Keeps d (d.update kvs).1
  | [], d => Keeps.refl d
  | (k, v) :: rest, d => by
    simp only [FD.update]
    cases hs : d.set k v with
    | error e => exact Keeps.refl d
    | ok d' => exact (set_keeps d d' k v hs).trans (update_keeps rest d')

theorem new_spec (declared : List String) (kvs : Items) (d : FD) (h : FD.new declared kvs = .ok d) :
    d.declared = declared ∧ Inv d := by
  unfold FD.new at h
  simp only at h
  split at h
  · cases h
  · next hnone =>
    cases h
    exact ⟨rfl, fun kv hkv => by simpa using List.find?_eq_none.1 hnone kv hkv⟩

theorem apply_keeps (d : FD) : ∀ op : Op, Keeps d (d.apply true op).1
  | .set k v => Keeps.of_except fun d' => set_keeps d d' k v
  | .setdefault k v => Keeps.of_except fun d' => setdefault_keeps d d' k v
  | .update kvs => update_keeps kvs d
  | .ior kvs => update_keeps kvs d
  | .copy => Keeps.of_except fun d' h => ⟨(new_spec _ _ d' h).1, fun _ => (new_spec _ _ d' h).2⟩
  | .pickle => ⟨(update_keeps d.items ⟨d.declared, []⟩).1, fun _ => (update_keeps d.items ⟨d.declared, []⟩).2 nofun⟩

theorem run_keeps : ∀ (ops : List Op) (d : FD), Keeps d (d.run true ops)
  | [], d => Keeps.refl d
  | op :: ops, d => (apply_keeps d op).trans (run_keeps ops _)

/-- **Invariant**: after any sequence of item assignment, setdefault, update, in-place merge,
    copy and pickle round trips, a fixed-entry dictionary holds only its declared keys —
    provided every key-adding operation is guarded (`iorGuarded`; see `all_guarded_in_code`). -/
theorem keys_subset_declared (ops : List Op) : ∀ (d : FD), Inv d →
    Inv (d.run true ops) ∧ (d.run true ops).declared = d.declared :=
  fun d h => ⟨(run_keeps ops d).2 h, (run_keeps ops d).1⟩

/-- **Undeclared keys are rejected with the fixeddict key error** by every guarded operation,
    and by construction. -/
theorem undeclared_rejected (d : FD) (k : String) (v : Int) (hk : k ∉ d.declared) :
    d.set k v = .error (.fixedDictKeyError k) ∧ d.setdefault k v = .error (.fixedDictKeyError k) ∧
    (d.update [(k, v)]).2 = some (.fixedDictKeyError k) ∧
    (d.ior true [(k, v)]).2 = some (.fixedDictKeyError k) ∧
    FD.new d.declared [(k, v)] = .error (.fixedDictKeyError k) := by
  have hc : d.declared.contains k = false := by simpa using hk
  have h1 : d.set k v = .error (.fixedDictKeyError k) := by simp only [FD.set, hc]; rfl
  refine ⟨h1, by simp only [FD.setdefault, hc]; rfl, ?_, ?_, ?_⟩
  · simp only [FD.update, h1]
  · simp only [FD.ior, if_true, FD.update, h1]
  · simp only [FD.new, rawMerge, rawSet, List.foldl_cons, List.foldl_nil, List.any_nil, Bool.false_eq_true, if_false,
      List.nil_append, List.find?_cons, hc, Bool.not_false]

theorem update_rebuild (declared : List String) : ∀ (suf pre : Items),
    ((pre ++ suf).map (·.1)).Nodup → (∀ kv ∈ suf, kv.1 ∈ declared) →
    ({ declared := declared, items := pre } : FD).update suf =
      ({ declared := declared, items := pre ++ suf }, none)
  | [], pre, _, _ => by simp [FD.update]
  | (k, v) :: rest, pre, hnd, hdecl => by
    have hk : declared.contains k = true := by simpa using hdecl (k, v) List.mem_cons_self
    simp only [FD.update, FD.set, hk, if_true, rawSet, VC2.Proofs.AssocList.set_fresh pre k v rest hnd]
    rw [List.append_cons pre (k, v) rest] at hnd ⊢
    exact update_rebuild declared rest _ hnd fun x hx => hdecl x (List.mem_cons_of_mem _ hx)

/-- **Pickling and unpickling returns an equal dictionary** (of the same declared-key type). -/
theorem pickle_roundtrip (d : FD) (hinv : Inv d) (hnd : (d.items.map (·.1)).Nodup) :
    d.pickleRoundTrip = (d, none) := by
  unfold FD.pickleRoundTrip
  have := update_rebuild d.declared d.items [] (by simpa using hnd) hinv
  simpa using this

/-- what the running code says about its key-adding operations (regenerated every run):
    each of `__init__`, `__setitem__`, `setdefault`, `update`, `__ior__` is overridden -/
theorem all_guarded_in_code : VC2.Gen.fixeddictGuards.all (·.2) = true := by decide

/-- had `|=` stayed the inherited `dict.__ior__` (defect F2), the invariant would fail: -/
theorem unguarded_ior_breaks_invariant :
    ¬ Inv (({ declared := ["a"], items := [] } : FD).run false [.ior [("bogus", 1)]]) := by
  intro h
  have := h ("bogus", 1) (by decide)
  revert this; decide

/-- non-vacuity -/
example : Inv ({ declared := ["a", "b"], items := [("a", 1)] } : FD) := by
  intro kv h; simp at h; subst h; decide
example : (({ declared := ["a", "b"], items := [("a", 1)] } : FD).run true
    [.set "b" 2, .ior [("a", 5)], .set "zz" 0, .pickle]).items = [("a", 5), ("b", 2)] := by decide

end VC2.Props.C27
