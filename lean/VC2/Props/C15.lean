/-
  C15 — every generated sequence header encodes exactly the requested video format.
  Property theorems only.  Model: VC2/Model/SeqHeader.lean (tied to encoder/sequence_header.py by the
  `so` correspondence).  PARTIAL: proved for every parameter group, any base format values, any
  target, any preset table and any level column: each option the generator yields decodes to the
  requested values and passes the level's checks, and every header assembled by the zip consists of
  individually generated options.  The nested colour specification (index 0 with three sub-groups),
  the instantiation with the real preset tables and the choice/ranking of base video formats are
  validated end to end: every header of the real iter_sequence_headers is decoded by the real
  validator and compared with the configured format.
-/
import VC2.Model.SeqHeader
namespace VC2.Props.C15
open VC2.Model.SeqHeader


theorem find_of_nodup_keys : ∀ (ps : List (Nat × List Int)) (p : Nat × List Int),
    (ps.map (·.1)).Nodup → p ∈ ps → ps.find? (·.1 == p.1) = some p := by
  intro ps
  induction ps with
  | nil => intro p _ h; cases h
  | cons q qs ih =>
    intro p hn hp
    simp only [List.map_cons, List.nodup_cons] at hn
    rcases List.mem_cons.1 hp with h | h
    · subst h; simp
    · have hne : q.1 ≠ p.1 := by
        intro e; apply hn.1; rw [e]; exact List.mem_map.2 ⟨p, h, rfl⟩
      rw [List.find?_cons_of_neg (by simpa using hne)]
      exact ih p hn.2 h

/-- **every generated option decodes to the requested values and passes the level's checks** -/
theorem options_decode_to_target (base target : List Int) (presets : Option (List (Nat × List Int))) (L : Level)
    (hk : ∀ ps, presets = some ps → (ps.map (·.1)).Nodup) (o : Opt) (ho : o ∈ iterOptions base target presets L) :
    decode base presets o = some target ∧ levelOk L presets.isSome o = true := by
  unfold iterOptions at ho
  simp only [List.mem_append] at ho
  rcases ho with (ho | ho) | ho
  · split at ho
    · rename_i h
      simp only [List.mem_singleton] at ho; subst ho
      simp only [Bool.and_eq_true, beq_iff_eq] at h
      exact ⟨by simp [decode, h.1], by simp [levelOk, h.2]⟩
    · cases ho
  · cases presets with
    | none => cases ho
    | some ps =>
      simp only [List.mem_map, List.mem_filter] at ho
      obtain ⟨p, ⟨hp, hc⟩, rfl⟩ := ho
      simp only [Bool.and_eq_true, beq_iff_eq] at hc
      refine ⟨?_, by simp [levelOk, hc.1.2, hc.2]⟩
      simp only [decode]
      rw [find_of_nodup_keys ps p (hk ps rfl) hp]
      simp [hc.1.1]
  · split at ho
    · rename_i h
      simp only [List.mem_singleton] at ho; subst ho
      simp only [Bool.and_eq_true, Bool.or_eq_true] at h
      refine ⟨rfl, ?_⟩
      cases presets with
      | none => simp [levelOk, h.1.1, h.2]
      | some ps =>
        have : L.index 0 = true := by rcases h.1.2 with h2 | h2 <;> simp_all
        simp [levelOk, h.1.1, h.2, this]
    · cases ho

/-- every row of the zip picks from each iterable one of its items, or nothing -/
theorem zipLongest_row {α : Type} {ls : List (List α)} {row : List (Option α)} (hr : row ∈ zipLongest ls) :
    ∃ pick : List α → Option α, (∀ l x, pick l = some x → x ∈ l) ∧ row = ls.map pick := by
  unfold zipLongest at hr
  simp only [List.mem_map, List.mem_range] at hr
  obtain ⟨j, _, rfl⟩ := hr
  refine ⟨_, fun l x h => ?_, rfl⟩
  split at h
  · exact List.mem_of_getElem? h
  · exact List.mem_of_getLast? h

/-- **the nested colour specification**: every option `iter_color_spec_options` generates — base
    format as it is, a preset other than 0, or index 0 with custom primaries / matrix / transfer function,
    each of those again "as preset 0 says" or explicit — decodes to the requested triple and passes the
    level's checks at both levels of nesting -/
theorem color_spec_options_decode_to_target (base target : List Int) (presets : List (Nat × List Int)) (L : CsLevel)
    (h3 : target.length = 3) (hk : (presets.map (·.1)).Nodup) (o : CsOpt) (ho : o ∈ iterColorSpec base target presets L) :
    decodeColorSpec base presets o = some target ∧ csLevelOk L o = true := by
  unfold iterColorSpec at ho
  simp only [List.mem_append] at ho
  rcases ho with (ho | ho) | ho
  · split at ho
    · rename_i h
      simp only [List.mem_singleton] at ho; subst ho
      simp only [Bool.and_eq_true, beq_iff_eq] at h
      exact ⟨by simp [decodeColorSpec, h.1], by simp [csLevelOk, h.2]⟩
    · cases ho
  · simp only [List.mem_map, List.mem_filter] at ho
    obtain ⟨p, ⟨hp, hc⟩, rfl⟩ := ho
    simp only [Bool.and_eq_true, beq_iff_eq] at hc
    refine ⟨?_, by simp [csLevelOk, hc.1.2, hc.2]⟩
    simp only [decodeColorSpec]
    rw [find_of_nodup_keys presets p hk hp]
    simp [hc.1.1.2]
  · split at ho
    · rename_i h
      simp only [Bool.and_eq_true] at h
      simp only [List.mem_filterMap] at ho
      obtain ⟨r, hr, hro⟩ := ho
      obtain ⟨pick, hpick, rfl⟩ := zipLongest_row (List.takeWhile_subset _ hr)
      -- the row is `[pick _, pick _, pick _]`, and `o` comes from it only when all three are present
      simp only [List.map_cons, List.map_nil] at hro
      split at hro
      · rename_i p m t e
        simp only [List.cons.injEq, and_true] at e
        cases hro
        have hp : _ ∧ levelOk L.prim false p = true := options_decode_to_target _ _ none _ nofun p (hpick _ _ e.1)
        have hm : _ ∧ levelOk L.mat false m = true := options_decode_to_target _ _ none _ nofun m (hpick _ _ e.2.1)
        have ht : _ ∧ levelOk L.tf false t = true := options_decode_to_target _ _ none _ nofun t (hpick _ _ e.2.2)
        refine ⟨?_, by simp only [csLevelOk, h.1, h.2, hp.2, hm.2, ht.2, Bool.and_self]⟩
        obtain ⟨a, b, c, rfl⟩ : ∃ a b c, target = [a, b, c] := ⟨_, _, _, List.eq_getElem_of_length_eq_three target h3⟩
        simp only [decodeColorSpec, hp.1, hm.1, ht.1]
        rfl
      · cases hro
    · cases ho

/-! ### non-vacuity: frame rate 25/1 on a base format of 30000/1001 with presets 1..3 -/
def lv : Level := { flag := fun _ => true, index := fun i => i != 2, value := fun _ _ => true }
example : iterOptions [30000, 1001] [25, 1] (some [(1, [24000, 1001]), (3, [25, 1]), (2, [25, 1])]) lv
    = [.preset 3, .custom [25, 1]] := by decide
example : iterOptions [25, 1] [25, 1] none { lv with flag := fun b => !b } = [.off] := by decide
example : zipLongest [[1, 2, 3], [7], ([] : List Nat)] = [[some 1, some 7, none], [some 2, some 7, none], [some 3, some 7, none]] := by
  decide

/-! ### the whole of the source parameters -/

/-- hypotheses the per-group theorems need: preset tables keyed without repetition, colour triples -/
def Group.WF : Group → Prop
  | .simple _ _ ps _ => ∀ l, ps = some l → (l.map (·.1)).Nodup
  | .color _ t ps _ => t.length = 3 ∧ (ps.map (·.1)).Nodup

theorem group_option_ok (g : Group) (hw : Group.WF g) (o : GOpt) (ho : o ∈ g.options) :
    g.decode o = some g.target ∧ g.levelOk o = true := by
  cases g with
  | simple b t ps L =>
    simp only [Group.options, List.mem_map] at ho
    obtain ⟨o', ho', rfl⟩ := ho
    exact options_decode_to_target b t ps L hw o' ho'
  | color b t ps L =>
    simp only [Group.options, List.mem_map] at ho
    obtain ⟨o', ho', rfl⟩ := ho
    exact color_spec_options_decode_to_target b t ps L hw.1 hw.2 o' ho'

theorem eq_map_some_of_all_isSome {α : Type} : ∀ (r : List (Option α)), r.all Option.isSome = true →
    r = (r.filterMap id).map some
  | [], _ => rfl
  | none :: r, h => by simp at h
  | some x :: r, h => by
    have h' : r.all Option.isSome = true := by simpa using h
    simpa using eq_map_some_of_all_isSome r h'

/-- **the whole set of source parameters**: every row `iter_source_parameter_options` yields has one
    encoding per group, in order, and each of them decodes to that group's requested values and passes
    that group's level checks -/
theorem source_parameters_decode_to_target (tffBase tffTarget : Bool) (groups : List Group)
    (hw : ∀ g ∈ groups, Group.WF g) (row : List GOpt) (hr : row ∈ iterSourceParameters tffBase tffTarget groups) :
    tffBase = tffTarget ∧ row.length = groups.length ∧
    ∀ i (hi : i < groups.length) (hi' : i < row.length),
      groups[i].decode row[i] = some groups[i].target ∧ groups[i].levelOk row[i] = true := by
  unfold iterSourceParameters at hr
  split at hr
  · cases hr
  · rename_i htff
    simp only [List.mem_map] at hr
    obtain ⟨r, hrm, rfl⟩ := hr
    obtain ⟨pick, hpick, rfl⟩ := zipLongest_row (List.takeWhile_subset _ hrm)
    -- no entry of the row is missing, so the row is its `filterMap id` wrapped in `some`
    have hall := List.all_eq_true.1 List.all_takeWhile _ hrm
    have hsome := eq_map_some_of_all_isSome _ hall
    have hlen := congrArg List.length hsome
    simp only [List.length_map] at hlen
    refine ⟨by simpa using htff, hlen.symm, fun i hi hi' => ?_⟩
    have hi := List.getElem_of_eq hsome (i := i) (by simpa using hi)
    simp only [List.getElem_map] at hi
    exact group_option_ok groups[i] (hw _ (List.getElem_mem _)) _ (hpick _ _ hi)

end VC2.Props.C15
