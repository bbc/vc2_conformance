/-
  C16 — the encoder respects any level table it claims to satisfy.  Property theorems only.
  PARTIAL, and the full statement is FALSE of the unchanged code (finding F8): the encoder never
  consults seven of the level keys the validator checks.  Proved here, on the C17 constraint-table
  model: if all values the validator will check lie jointly in ONE column of the table (which is
  what the encoder establishes for the keys it solves, via filter_constraint_table), then the
  validator's one-at-a-time checking accepts the whole sequence of checks — for every table
  without catch-all columns and every order of checks.  The generated key inventories pin down
  exactly which checked keys the encoder does not consult; the check treats a validator rejection
  naming one of THOSE keys as the recorded finding and anything else as a violation.
-/
import VC2.Props.C17
import VC2.Gen.LevelKeys
namespace VC2.Props.C16
open VC2 VC2.Model.Constraint VC2.Proofs.Constraint

/-- a column that admits every (key, value) of the assignment keeps every prefix allowed -/
theorem column_admits_prefixes (t : Table) (c : Comb) (hc : c ∈ t) (kvs : List (Key × Int))
    (h : ∀ kv ∈ kvs, c.admits kv = true) (n : Nat) : isAllowed t (kvs.take n) = true :=
  (isAllowed_iff t _).2 ⟨c, hc, Bool.or_eq_true_iff.2 (Or.inl (List.all_eq_true.2 fun kv hkv => h kv (List.mem_of_mem_take hkv)))⟩

/-- **joint membership in one column ⇒ the validator accepts every check**, in any order of
    distinct keys -/
theorem one_column_implies_validator_accepts (t : Table) (hnc : NoCatchAll t) (c : Comb) (hc : c ∈ t)
    (kvs : List (Key × Int)) (hnd : (kvs.map (·.1)).Nodup) (h : ∀ kv ∈ kvs, c.admits kv = true) :
    assertSeq t [] kvs = some kvs := by
  have key := VC2.Props.C17.incremental_check_exact t hnc kvs hnd
  have hsome : (assertSeq t [] kvs).isSome = true :=
    key.1.2 (fun n _ _ => column_admits_prefixes t c hc kvs h n)
  cases hr : assertSeq t [] kvs with
  | none => rw [hr] at hsome; cases hsome
  | some r => rw [key.2 r hr]

/-- part of the recorded finding F8 as a kernel-checked fact about the GENERATED inventories: these
    five level keys are checked by the validator and are not even mentioned in encoder/*.py or
    codec_features.py (the other two recorded keys, dwt_depth_ho and slice_size_scaler, occur there only
    as configuration fields; that they are not consulted as level keys is established dynamically).
    Any change of this set breaks the obligation. -/
theorem keys_never_mentioned_by_the_encoder :
    (VC2.Gen.validatorLevelKeys.filter (fun k => !VC2.Gen.encoderLevelKeys.contains k)) =
      ["major_version", "minor_version", "qindex", "quant_matrix_values", "total_slice_bytes"] := by
  decide +kernel

/-- negation witness of the full statement on the model: a one-column table restricting a key the
    encoder ignores rejects a value the encoder is free to produce -/
example : assertSeq [[("level", .set { values := [1] }), ("qindex", .set { values := [0] })]] [] [("level", 1), ("qindex", 5)] = none := by
  decide +kernel
example : assertSeq [[("level", .set { values := [1] }), ("slices_x", .set { ranges := [(1, 4)] })]] [] [("level", 1), ("slices_x", 2)]
    = some [("level", 1), ("slices_x", 2)] := by decide +kernel

end VC2.Props.C16
