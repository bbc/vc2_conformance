/-
  C05 — decoder test cases are conformant and decode to their intended pictures.
  Property theorems only.  PARTIAL: proved are (i) name uniqueness from the registry side — the
  registered generator names (regenerated from the running registry) are pairwise distinct, contain
  no '[', and `case[subcase]` is injective on such names; (ii) transparency facts on the
  stream-structure model shared with C01: padding and auxiliary data units leave the decoder state
  untouched, a repeated identical sequence header changes nothing the decoding depends on; (iii) the
  arithmetic behind the slice-size-scaler test case (a larger scaler still covers every slice).
  That each Python generator IS one of these content-preserving transformations, and everything
  about the decoded pictures, is established by running the real registry on sampled configurations.
-/
import VC2.Gen.Registry
import VC2.Props.C01
import VC2.Proofs.SliceFit
import VC2.Proofs.SlicePad
namespace VC2.Props.C05
open VC2

/-- the names of the registered decoder (and encoder) test-case generators are pairwise distinct
    and none contains a '[' -/
theorem generator_names_distinct :
    VC2.Gen.decoderGeneratorNames.Nodup ∧ VC2.Gen.encoderGeneratorNames.Nodup ∧
    (VC2.Gen.decoderGeneratorNames ++ VC2.Gen.encoderGeneratorNames).all (fun n => !n.toList.contains '[') = true := by
  refine ⟨by decide +kernel, by decide +kernel, ?_⟩
  -- decoding a literal into its characters is slow in the kernel, its UTF-8 bytes are at hand:
  -- a string with a '[' has the byte 91
  have byte_of_bracket : ∀ s : String, '[' ∈ s.toList → (91 : UInt8) ∈ s.toByteArray.data.toList := by
    intro s h
    rw [← String.utf8Encode_toList, List.utf8Encode]
    simp only [List.data_toByteArray, List.toList_toArray, List.mem_flatMap]
    exact ⟨'[', h, by decide⟩
  have bytes : ∀ n ∈ VC2.Gen.decoderGeneratorNames ++ VC2.Gen.encoderGeneratorNames,
      (91 : UInt8) ∉ n.toByteArray.data.toList := by decide +kernel
  simp only [List.all_eq_true, Bool.not_eq_true', List.contains_eq_mem, decide_eq_false_iff_not]
  exact fun n hn h => bytes n hn (byte_of_bracket n h)

/-- `TestCase.name`: `case[subcase]` on character lists -/
def fullName (c s : List Char) : List Char := c ++ '[' :: s ++ [']']

/-- a list is split in one way only at the first occurrence of `a` -/
theorem split_at_first {α : Type} {a : α} : ∀ (c1 c2 r1 r2 : List α), a ∉ c1 → a ∉ c2 →
    c1 ++ a :: r1 = c2 ++ a :: r2 → c1 = c2 ∧ r1 = r2 := by
  intro c1
  induction c1 with
  | nil =>
    intro c2 r1 r2 _ h2 h
    cases c2 with
    | nil => exact ⟨rfl, (List.cons.inj h).2⟩
    | cons x xs => exact absurd ((List.cons.inj h).1 ▸ List.mem_cons_self) h2
  | cons x xs ih =>
    intro c2 r1 r2 h1 h2 h
    cases c2 with
    | nil => exact absurd ((List.cons.inj h).1 ▸ List.mem_cons_self) h1
    | cons y ys =>
      obtain ⟨e, rest⟩ := List.cons.inj h
      have := ih ys r1 r2 (fun m => h1 (List.mem_cons_of_mem _ m)) (fun m => h2 (List.mem_cons_of_mem _ m)) rest
      exact ⟨by rw [e, this.1], this.2⟩

/-- **test-case names are unique** as long as (case, subcase) pairs are: the full name determines
    both parts, for case names without '[' -/
theorem full_name_injective (c1 c2 s1 s2 : List Char) (h1 : '[' ∉ c1) (h2 : '[' ∉ c2)
    (h : fullName c1 s1 = fullName c2 s2) : c1 = c2 ∧ s1 = s2 := by
  unfold fullName at h
  have := split_at_first c1 c2 (s1 ++ [']']) (s2 ++ [']']) h1 h2 (by simpa using h)
  exact ⟨this.1, List.append_cancel_right this.2⟩

/-- **padding and auxiliary data units are transparent**: their payload leaves the validator's
    whole state (picture numbering, fragment progress, decoded pictures, …) unchanged -/
theorem padding_is_transparent (cfg : VC2.Model.Stream.Config) (s : VC2.Model.Stream.VState) (u : VC2.Model.Stream.DUnit)
    (h : u.kind = .aux ∨ u.kind = .padding) : VC2.Model.Stream.payload cfg s u = .ok s := by
  unfold VC2.Model.Stream.payload
  rcases h with h | h <;> rw [h] <;> rfl

/-- **a repeated, byte-identical sequence header** leaves everything decoding depends on unchanged -/
theorem repeated_header_is_transparent (cfg : VC2.Model.Stream.Config) (s s1 : VC2.Model.Stream.VState)
    (u : VC2.Model.Stream.DUnit) (h : VC2.Model.Stream.headerPayload cfg s u = .ok s1) :
    s1.lastPicNum = s.lastPicNum ∧ s1.numPics = s.numPics ∧ s1.fragRemaining = s.fragRemaining ∧
    s1.fragReceived = s.fragReceived ∧ s1.slicesX = s.slicesX ∧ s1.slicesY = s.slicesY ∧ s1.decoded = s.decoded := by
  obtain ⟨_, _, _, _, rfl⟩ := (VC2.Proofs.Stream.headerPayload_ok_iff cfg s u s1).1 h
  exact ⟨rfl, rfl, rfl, rfl, rfl, rfl, rfl⟩

/-- **slice size scaler**: re-expressing a length of `L` bytes with any scaler `s ≥ 1` as
    `⌈L / s⌉` units still covers the data, with less than one unit of slack -/
theorem rescaled_length_covers (L s : Int) (hs : 1 ≤ s) (hL : 0 ≤ L) :
    L ≤ s * pydiv (L + s - 1) s ∧ s * pydiv (L + s - 1) s < L + s := by
  rw [pydiv_pos _ _ (by omega)]
  have h1 := Int.ediv_mul_le (L + s - 1) (by omega : s ≠ 0)
  have h2 := Int.lt_ediv_add_one_mul_self (L + s - 1) (by omega : 0 < s)
  have e : s * ((L + s - 1) / s) = (L + s - 1) / s * s := Int.mul_comm _ _
  have e2 : ((L + s - 1) / s + 1) * s = (L + s - 1) / s * s + s := by rw [Int.add_mul]; omega
  rw [e]; rw [e2] at h2
  constructor <;> omega

example : fullName "padding_data".toList "10_bytes".toList = "padding_data[10_bytes]".toList := by decide +kernel

/-! ### slice padding fillers (`slice_padding_data`) -/
section SlicePad
open VC2.Model.SlicePad VC2.Proofs.SlicePad

/-- **low delay: the luma length written by the filler fits its field and leaves a non-negative
    share for colour difference**, for every slice size of at least one byte
    (`k` is the width of the `slice_y_length` field) -/
theorem ld_fill_y_length_fits (sb : Int) (hsb : 1 ≤ sb) (luma : Bool) (z : Nat) (f : List Nat) (al : Bool) :
    0 ≤ (ldFill sb luma z f al).yLen ∧
    (ldFill sb luma z f al).yLen < 2 ^ (VC2.Gen.intlog2 (8 * sb - 7)).toNat ∧
    (ldFill sb luma z f al).yLen ≤ 8 * sb - 7 - VC2.Gen.intlog2 (8 * sb - 7) := by
  obtain ⟨n, hn⟩ : ∃ n : Nat, 8 * sb - 7 = (n : Int) := ⟨(8 * sb - 7).toNat, by omega⟩
  obtain ⟨k, hk, hge, hkn, _⟩ := intlog2_facts n (by omega)
  have hpow : 0 < 2 ^ k := Nat.two_pow_pos k
  unfold ldFill
  simp only [hn, hk, Int.toNat_natCast]
  have hpc : ((2 : Int) ^ k) = ((2 ^ k : Nat) : Int) := by norm_cast
  rw [hpc]
  generalize 2 ^ k = P at *
  cases luma
  · simp only [Bool.false_eq_true, if_false]; omega
  · simp only [if_true]; unfold pymin; split <;> omega

/-- … and **only the degenerate one-byte slice differs from 'all bits to luma'**: from two bytes per
    slice upwards the luma component receives every data bit of the slice -/
theorem ld_fill_luma_gets_everything (sb : Int) (hsb : 2 ≤ sb) (z : Nat) (f : List Nat) (al : Bool) :
    (ldFill sb true z f al).yLen = 8 * sb - 7 - VC2.Gen.intlog2 (8 * sb - 7) := by
  obtain ⟨n, hn⟩ : ∃ n : Nat, 8 * sb - 7 = (n : Int) := ⟨(8 * sb - 7).toNat, by omega⟩
  obtain ⟨k, hk, hge, hkn, hk1⟩ := intlog2_facts n (by omega)
  have := hk1 (by omega)
  unfold ldFill
  simp only [hn, hk, Int.toNat_natCast, if_true]
  have hpc : ((2 : Int) ^ k) = ((2 ^ k : Nat) : Int) := by norm_cast
  rw [hpc]
  generalize 2 ^ k = P at *
  unfold pymin; split <;> omega

/-- **the padding exactly fills the component**: zeros + padding = the component's bounded block
    whenever the zero coefficients leave room -/
theorem ld_fill_padding_length (sb : Int) (luma : Bool) (z : Nat) (f : List Nat) (al : Bool) (hf : f ≠ []) :
    (((ldFill sb luma z f al).padding.length : Nat) : Int) =
      if (if luma then (ldFill sb luma z f al).yLen else 8 * sb - 7 - VC2.Gen.intlog2 (8 * sb - 7)) - z > 0
      then (if luma then (ldFill sb luma z f al).yLen else 8 * sb - 7 - VC2.Gen.intlog2 (8 * sb - 7)) - z else 0 := by
  unfold ldFill
  cases luma
  · simp only [Bool.false_eq_true, if_false]; exact guarded_padding_length _ f _ hf
  · simp only [if_true]; exact guarded_padding_length _ f _ hf

/-- **high quality**: the chosen component receives `max(min_length, y + c1 + c2)`, the other two
    nothing; it is again a single 8-bit length whenever the three lengths came out of one slice
    budget (`hq_lossy_budget_le_255`) and the minimum is one -/
theorem hq_fill_lengths (sc y c1 c2 mn : Int) (comp z : Nat) (f : List Nat) (al : Bool) (hc : comp < 3) :
    let r := hqFill sc y c1 c2 mn comp z f al
    r.yLen + r.c1Len + r.c2Len = pymax mn (y + c1 + c2) ∧
    (y + c1 + c2 ≤ 255 → mn ≤ 255 → 0 ≤ y + c1 + c2 →
      0 ≤ r.yLen ∧ r.yLen ≤ 255 ∧ 0 ≤ r.c1Len ∧ r.c1Len ≤ 255 ∧ 0 ≤ r.c2Len ∧ r.c2Len ≤ 255) := by
  intro r
  simp only [r, hqFill]
  have : comp = 0 ∨ comp = 1 ∨ comp = 2 := by omega
  unfold pymax
  rcases this with h | h | h <;> subst h <;> simp <;> (try split) <;> omega

theorem hq_fill_padding_length (sc y c1 c2 mn : Int) (comp z : Nat) (f : List Nat) (al : Bool) (hf : f ≠ []) :
    (((hqFill sc y c1 c2 mn comp z f al).padding.length : Nat) : Int) =
      if pymax mn (y + c1 + c2) * sc * 8 - z > 0 then pymax mn (y + c1 + c2) * sc * 8 - z else 0 := by
  unfold hqFill
  exact guarded_padding_length _ f _ hf

/-- the generated padding always has the requested length -/
theorem filled_padding_length (n : Nat) (f : List Nat) (a : Int) (hf : f ≠ []) :
    (filledPadding n f a).length = n := filledPadding_length n f a hf

/-! non-vacuity: the one-byte slice (defect F10), an ordinary slice, an aligned dummy pattern -/
example : (ldFill 1 true 0 [255] false).yLen = 0 ∧ (ldFill 1 false 0 [255] false).padding = [true] := by decide
example : (ldFill 3 true 4 [0xAA] false).yLen = 12 ∧ (ldFill 3 true 4 [0xAA] false).padding.length = 8 := by decide
example : filledPadding 12 [0xF0] 13 = [false, false, false, true, true, true, true, false, false, false, false, true] := by decide
example : (hqFill 2 1 2 3 0 1 5 [255] false).c1Len = 6 ∧ (hqFill 2 1 2 3 0 1 5 [255] false).padding.length = 91 := by decide

end SlicePad

end VC2.Props.C05
