/-
  C13 — Slices tile every subband and low-delay slice sizes sum exactly.
  Statements are about the definitions GENERATED from
  vc2_conformance/pseudocode/slice_sizes.py (VC2.Gen.Kernels); all sizes, depths and
  slice counts are unbounded.
-/
import VC2.Proofs.Slices
import VC2.Proofs.IntDiv
set_option linter.unusedVariables false
namespace VC2.Props.C13
open VC2 VC2.Gen VC2.Proofs.Slices

/-- Domain of the geometry functions: non-negative depths, at least one slice each way,
    a component name the code knows, a level that exists. -/
structure Dom (st : St) (c : String) (level : Int) : Prop where
  g : GeomOk st
  comp : CompOk c
  l0 : 0 ≤ level
  l1 : level ≤ depthW st
  w : 0 ≤ compW st c
  h : 0 ≤ compH st c

/-- On the domain none of the geometry functions raises, falls through or divides by 0. -/
theorem geometry_defined (st : St) (c : String) (level k : Int) (d : Dom st c level) :
    subband_width_ok st level c = true ∧ subband_height_ok st level c = true ∧
    slice_left_ok st k c level = true ∧ slice_right_ok st k c level = true ∧
    slice_top_ok st k c level = true ∧ slice_bottom_ok st k c level = true := by
  have ⟨hw, hh⟩ := subband_ok st level c d.comp d.g d.l0 d.l1
  have hx := d.g.sx; have hy := d.g.sy
  have nx : st.slices_x ≠ 0 := by omega
  have ny : st.slices_y ≠ 0 := by omega
  unfold slice_left_ok slice_right_ok slice_top_ok slice_bottom_ok
  simp [hw, hh, nx, ny]

theorem slice_left_eq (st : St) (k : Int) (c : String) (level : Int) (g : GeomOk st) :
    slice_left st k c level = bound (subband_width st level c) st.slices_x k := by
  unfold slice_left bound; exact pydiv_pos _ _ (by have := g.sx; omega)
theorem slice_right_eq (st : St) (k : Int) (c : String) (level : Int) (g : GeomOk st) :
    slice_right st k c level = bound (subband_width st level c) st.slices_x (k + 1) := by
  unfold slice_right bound; exact pydiv_pos _ _ (by have := g.sx; omega)
theorem slice_top_eq (st : St) (k : Int) (c : String) (level : Int) (g : GeomOk st) :
    slice_top st k c level = bound (subband_height st level c) st.slices_y k := by
  unfold slice_top bound; exact pydiv_pos _ _ (by have := g.sy; omega)
theorem slice_bottom_eq (st : St) (k : Int) (c : String) (level : Int) (g : GeomOk st) :
    slice_bottom st k c level = bound (subband_height st level c) st.slices_y (k + 1) := by
  unfold slice_bottom bound; exact pydiv_pos _ _ (by have := g.sy; omega)

theorem padded_nonneg (w D : Int) (hw : 0 ≤ w) : 0 ≤ padded w D := by
  unfold padded
  have hp := shl_one_pos D
  exact Int.mul_nonneg (by omega) (Int.ediv_nonneg (by omega) (by omega))

theorem subband_width_nonneg (st : St) (c : String) (level : Int) (d : Dom st c level) :
    0 ≤ subband_width st level c := by
  rw [subband_width_eq st level c d.comp]
  exact Int.ediv_nonneg (padded_nonneg _ _ d.w) (by have := shl_one_pos (wexp st level); omega)

theorem subband_height_nonneg (st : St) (c : String) (level : Int) (d : Dom st c level) :
    0 ≤ subband_height st level c := by
  rw [subband_height_eq st level c d.comp]
  exact Int.ediv_nonneg (padded_nonneg _ _ d.h) (by have := shl_one_pos (hexp st level); omega)

/-- Horizontal tiling: the first slice starts at 0, each slice ends where the next begins,
    the last ends at the subband width, and no slice has negative extent. -/
theorem horizontal_tiling (st : St) (c : String) (level : Int) (d : Dom st c level) :
    slice_left st 0 c level = 0 ∧
    (∀ k, slice_right st k c level = slice_left st (k + 1) c level) ∧
    slice_right st (st.slices_x - 1) c level = subband_width st level c ∧
    (∀ k, 0 ≤ k → 0 ≤ slice_left st k c level ∧ slice_left st k c level ≤ slice_right st k c level) :=
  tiling (slice_left st · c level) (slice_right st · c level) _ _
    (fun k => slice_left_eq st k c level d.g) (fun k => slice_right_eq st k c level d.g)
    (subband_width_nonneg st c level d) d.g.sx

/-- Vertical tiling, likewise. -/
theorem vertical_tiling (st : St) (c : String) (level : Int) (d : Dom st c level) :
    slice_top st 0 c level = 0 ∧
    (∀ k, slice_bottom st k c level = slice_top st (k + 1) c level) ∧
    slice_bottom st (st.slices_y - 1) c level = subband_height st level c ∧
    (∀ k, 0 ≤ k → 0 ≤ slice_top st k c level ∧ slice_top st k c level ≤ slice_bottom st k c level) :=
  tiling (slice_top st · c level) (slice_bottom st · c level) _ _
    (fun k => slice_top_eq st k c level d.g) (fun k => slice_bottom_eq st k c level d.g)
    (subband_height_nonneg st c level d) d.g.sy

/-- Every column of the subband lies in exactly one slice (disjoint, in-order cover). -/
theorem horizontal_partition (st : St) (c : String) (level x : Int) (d : Dom st c level)
    (hx0 : 0 ≤ x) (hx1 : x < subband_width st level c) :
    (∃ k, 0 ≤ k ∧ k < st.slices_x ∧ slice_left st k c level ≤ x ∧ x < slice_right st k c level) ∧
    (∀ k k', slice_left st k c level ≤ x → x < slice_right st k c level →
             slice_left st k' c level ≤ x → x < slice_right st k' c level → k = k') :=
  partition (slice_left st · c level) (slice_right st · c level) _ _ x
    (fun k => slice_left_eq st k c level d.g) (fun k => slice_right_eq st k c level d.g)
    (subband_width_nonneg st c level d) d.g.sx hx0 hx1

/-- Every row of the subband lies in exactly one slice. -/
theorem vertical_partition (st : St) (c : String) (level y : Int) (d : Dom st c level)
    (hy0 : 0 ≤ y) (hy1 : y < subband_height st level c) :
    (∃ k, 0 ≤ k ∧ k < st.slices_y ∧ slice_top st k c level ≤ y ∧ y < slice_bottom st k c level) ∧
    (∀ k k', slice_top st k c level ≤ y → y < slice_bottom st k c level →
             slice_top st k' c level ≤ y → y < slice_bottom st k' c level → k = k') :=
  partition (slice_top st · c level) (slice_bottom st · c level) _ _ y
    (fun k => slice_top_eq st k c level d.g) (fun k => slice_bottom_eq st k c level d.g)
    (subband_height_nonneg st c level d) d.g.sy hy0 hy1

/-- The padded size is the least multiple of the transform scale that is ≥ the size. -/
theorem padded_least_multiple (w D : Int) :
    w ≤ padded w D ∧ padded w D < w + shl 1 D ∧ padded w D % shl 1 D = 0 := by
  unfold padded
  have hp := shl_one_pos D
  rw [← pydiv_pos _ _ hp, Int.mul_comm]
  exact ⟨ceil_mul_ge w hp, ceil_mul_lt w hp, Int.mul_emod_left _ _⟩

theorem padded_div_mul (w D j : Int) (hj0 : 0 ≤ j) (hjD : j ≤ D) :
    padded w D / shl 1 j * shl 1 j = padded w D ∧
    padded w D / shl 1 j = shl 1 (D - j) * ((w + shl 1 D - 1) / shl 1 D) := by
  unfold padded
  have e : shl 1 D = shl 1 j * shl 1 (D - j) := by
    have := shl_one_add j (D - j) hj0 (by omega)
    have e2 : j + (D - j) = D := by omega
    rw [e2] at this; exact this
  have hp := shl_one_pos j
  generalize (w + shl 1 D - 1) / shl 1 D = m
  rw [e]
  generalize shl 1 j = s at *
  generalize shl 1 (D - j) = t at *
  have : s * t * m / s = t * m := by
    rw [Int.mul_assoc]; exact Int.mul_ediv_cancel_left _ (by omega)
  rw [this]
  refine ⟨?_, rfl⟩
  rw [Int.mul_comm (t * m) s, Int.mul_assoc]

theorem wexp_range (st : St) (level : Int) (g : GeomOk st) (l0 : 0 ≤ level) (l1 : level ≤ depthW st) :
    0 ≤ wexp st level ∧ wexp st level ≤ depthW st := by
  have := g.d; have := g.dho
  unfold wexp depthW at *; split <;> omega

theorem hexp_range (st : St) (level : Int) (g : GeomOk st) (l0 : 0 ≤ level) (l1 : level ≤ depthW st) :
    0 ≤ hexp st level ∧ hexp st level ≤ st.dwt_depth := by
  have := g.d; have := g.dho
  unfold hexp depthW at *; split
  · omega
  · split <;> omega

/-- Subband dimensions match the padded picture for the transform:
    width × (its decimation factor) is exactly the padded component width, and likewise
    vertically (where horizontal-only levels do not decimate). -/
theorem subband_matches_padded (st : St) (c : String) (level : Int) (d : Dom st c level) :
    subband_width st level c * shl 1 (wexp st level) = padded (compW st c) (depthW st) ∧
    subband_height st level c * shl 1 (hexp st level) = padded (compH st c) st.dwt_depth := by
  have ⟨a, b⟩ := wexp_range st level d.g d.l0 d.l1
  have ⟨a', b'⟩ := hexp_range st level d.g d.l0 d.l1
  rw [subband_width_eq st level c d.comp, subband_height_eq st level c d.comp]
  exact ⟨(padded_div_mul _ _ _ a b).1, (padded_div_mul _ _ _ a' b').1⟩

/-- each subband width is the DC-band width times a power of two -/
theorem subband_width_scales (st : St) (c : String) (level : Int) (d : Dom st c level) :
    subband_width st level c = shl 1 (depthW st - wexp st level) * subband_width st 0 c ∧
    subband_height st level c = shl 1 (st.dwt_depth - hexp st level) * subband_height st 0 c := by
  have ⟨a, b⟩ := wexp_range st level d.g d.l0 d.l1
  have ⟨a', b'⟩ := hexp_range st level d.g d.l0 d.l1
  have hd := d.g.d; have hdho := d.g.dho
  have hD : 0 ≤ depthW st := by unfold depthW; omega
  rw [subband_width_eq st level c d.comp, subband_height_eq st level c d.comp,
      subband_width_eq st 0 c d.comp, subband_height_eq st 0 c d.comp]
  rw [(padded_div_mul _ _ _ a b).2, (padded_div_mul _ _ _ a' b').2]
  have w0 : wexp st 0 = depthW st := by simp [wexp]
  have h0 : hexp st 0 = st.dwt_depth := by simp [hexp]
  rw [w0, h0, (padded_div_mul _ _ _ hD (Int.le_refl _)).2, (padded_div_mul _ _ _ hd (Int.le_refl _)).2]
  have z : shl 1 (depthW st - depthW st) = 1 := by simp [shl]
  have z' : shl 1 (st.dwt_depth - st.dwt_depth) = 1 := by simp [shl]
  rw [z, z']; simp

/-- "All slices have the same dimensions", spelt out: for every component, every level
    and every slice index the slice extents equal those of slice 0, both ways. -/
def AllSlicesSameDimensions (st : St) : Prop :=
  ∀ c level, Dom st c level →
    (∀ k, 0 ≤ k → k < st.slices_x →
      slice_right st k c level - slice_left st k c level
        = slice_right st 0 c level - slice_left st 0 c level) ∧
    (∀ k, 0 ≤ k → k < st.slices_y →
      slice_bottom st k c level - slice_top st k c level
        = slice_bottom st 0 c level - slice_top st 0 c level)

theorem mod_of_scaled (t W n : Int) (h : W % n = 0) : (t * W) % n = 0 := by
  have : W = n * (W / n) := by have := Int.mul_ediv_add_emod W n; omega
  rw [this, ← Int.mul_assoc, Int.mul_comm t n, Int.mul_assoc]; exact Int.mul_emod_right _ _

/-- The reported flag is true exactly when all slices do have the same dimensions. -/
theorem same_dimensions_flag_iff (st : St) (g : GeomOk st)
    (hw : 0 ≤ st.luma_width) (hh : 0 ≤ st.luma_height)
    (hcw : 0 ≤ st.color_diff_width) (hch : 0 ≤ st.color_diff_height) :
    slices_have_same_dimensions st = true ↔ AllSlicesSameDimensions st := by
  have hd := g.d; have hdho := g.dho
  have hD : 0 ≤ depthW st := by unfold depthW; omega
  -- slice by slice the claim is divisibility of the subband's width and height
  have key : ∀ c level, Dom st c level →
      ((∀ k, 0 ≤ k → k < st.slices_x →
          slice_right st k c level - slice_left st k c level
            = slice_right st 0 c level - slice_left st 0 c level) ∧
       (∀ k, 0 ≤ k → k < st.slices_y →
          slice_bottom st k c level - slice_top st k c level
            = slice_bottom st 0 c level - slice_top st 0 c level) ↔
       subband_width st level c % st.slices_x = 0 ∧ subband_height st level c % st.slices_y = 0) :=
    fun c level d => and_congr
      (equal_extents_iff (slice_left st · c level) (slice_right st · c level) _ _
        (fun k => slice_left_eq st k c level g) (fun k => slice_right_eq st k c level g) g.sx)
      (equal_extents_iff (slice_top st · c level) (slice_bottom st · c level) _ _
        (fun k => slice_top_eq st k c level g) (fun k => slice_bottom_eq st k c level g) g.sy)
  unfold slices_have_same_dimensions
  simp only [pymod_pos _ _ g.sx, pymod_pos _ _ g.sy, decide_eq_true_eq]
  constructor
  · rintro ⟨f1, f2, f3, f4⟩ c level d
    rw [key c level d]
    -- every level is the DC band times a power of two; "C2" has the dimensions of "C1"
    have ⟨sw, sh⟩ := subband_width_scales st c level d
    have cw : subband_width st 0 c % st.slices_x = 0 ∧ subband_height st 0 c % st.slices_y = 0 := by
      rcases d.comp with h | h | h
      · subst h; exact ⟨f1, f2⟩
      · subst h; exact ⟨f3, f4⟩
      · subst h
        have e1 : subband_width st 0 "C2" = subband_width st 0 "C1" := by
          rw [subband_width_eq _ _ _ (Or.inr (Or.inr rfl)), subband_width_eq _ _ _ (Or.inr (Or.inl rfl))]
          simp [compW]
        have e2 : subband_height st 0 "C2" = subband_height st 0 "C1" := by
          rw [subband_height_eq _ _ _ (Or.inr (Or.inr rfl)), subband_height_eq _ _ _ (Or.inr (Or.inl rfl))]
          simp [compH]
        rw [e1, e2]; exact ⟨f3, f4⟩
    rw [sw, sh]
    exact ⟨mod_of_scaled _ _ _ cw.1, mod_of_scaled _ _ _ cw.2⟩
  · intro hall
    have dY : Dom st "Y" 0 := ⟨g, Or.inl rfl, by omega, hD, by simpa [compW] using hw, by simpa [compH] using hh⟩
    have dC : Dom st "C1" 0 := ⟨g, Or.inr (Or.inl rfl), by omega, hD, by simpa [compW] using hcw, by simpa [compH] using hch⟩
    have ⟨a1, a2⟩ := (key _ _ dY).1 (hall _ _ dY)
    have ⟨a3, a4⟩ := (key _ _ dC).1 (hall _ _ dC)
    exact ⟨a1, a2, a3, a4⟩

/-- the bytes of slice number `k = sy·slices_x + sx` lie between the `k`th and `k+1`st multiple of
    numerator/denominator -/
theorem slice_bytes_eq (st : St) (sx sy : Int) (hden : 0 < st.slice_bytes_denominator) :
    slice_bytes st sx sy =
      ((sy * st.slices_x + sx) * st.slice_bytes_numerator + st.slice_bytes_numerator) / st.slice_bytes_denominator
        - (sy * st.slices_x + sx) * st.slice_bytes_numerator / st.slice_bytes_denominator := by
  unfold slice_bytes
  simp only [pydiv_pos _ _ hden, Int.add_mul, Int.one_mul]

/-- Low-delay slice sizes are non-negative … -/
theorem slice_bytes_nonneg (st : St) (sx sy : Int) (hden : 0 < st.slice_bytes_denominator)
    (hnum : 0 ≤ st.slice_bytes_numerator) :
    slice_bytes_ok st sx sy = true ∧ 0 ≤ slice_bytes st sx sy := by
  constructor
  · unfold slice_bytes_ok
    have : st.slice_bytes_denominator ≠ 0 := by omega
    simp [this]
  · rw [slice_bytes_eq st sx sy hden]
    have := Int.ediv_le_ediv hden
      (Int.le_add_of_nonneg_right hnum : (sy * st.slices_x + sx) * st.slice_bytes_numerator ≤ _)
    omega

/-- … at most `c` when numerator ≤ `c` · denominator … -/
theorem slice_bytes_le (st : St) (sx sy c : Int) (hden : 0 < st.slice_bytes_denominator)
    (h : st.slice_bytes_numerator ≤ c * st.slice_bytes_denominator) : slice_bytes st sx sy ≤ c := by
  rw [slice_bytes_eq st sx sy hden]
  have := add_ediv_le ((sy * st.slices_x + sx) * st.slice_bytes_numerator) _ c hden h
  omega

/-- … and sum over the picture (slice number N = sy·slices_x + sx, N < n) to
    ⌊n · numerator / denominator⌋. -/
theorem slice_bytes_sum (st : St) (n : Nat) (hden : 0 < st.slice_bytes_denominator)
    (hsx : 1 ≤ st.slices_x) :
    sumTo (fun N => slice_bytes st ((N : Int) % st.slices_x) ((N : Int) / st.slices_x)) n
      = ((n : Int) * st.slice_bytes_numerator) / st.slice_bytes_denominator := by
  have e : ∀ N : Nat, slice_bytes st ((N : Int) % st.slices_x) ((N : Int) / st.slices_x)
      = (((N + 1 : Nat) : Int) * st.slice_bytes_numerator) / st.slice_bytes_denominator
        - ((N : Int) * st.slice_bytes_numerator) / st.slice_bytes_denominator := by
    intro N
    rw [slice_bytes_eq st _ _ hden, Int.ediv_mul_add_emod, Int.natCast_succ, Int.add_mul, Int.one_mul]
  simp only [e]
  rw [telescope (fun k => ((k : Int) * st.slice_bytes_numerator) / st.slice_bytes_denominator) n]
  simp

/-- non-vacuity: a concrete geometry in the domain, and concrete values -/
def exampleSt : St :=
  { luma_width := 11, luma_height := 5, color_diff_width := 6, color_diff_height := 5,
    dwt_depth := 1, dwt_depth_ho := 1, slices_x := 3, slices_y := 2,
    slice_bytes_numerator := 7, slice_bytes_denominator := 2 }
example : Dom exampleSt "C1" 2 :=
  ⟨⟨by decide, by decide, by decide, by decide⟩, Or.inr (Or.inl rfl), by decide, by decide, by decide, by decide⟩
example : subband_width exampleSt 2 "Y" = 6 ∧ slice_left exampleSt 1 "Y" 2 = 2 ∧
    slice_right exampleSt 2 "Y" 2 = 6 ∧ slices_have_same_dimensions exampleSt = false := by decide
example : sumTo (fun N => slice_bytes exampleSt ((N : Int) % 3) ((N : Int) / 3)) 6 = 21 := by decide

end VC2.Props.C13
