/-
  C12 — Quantisation reconstructs within one step and distinguishes indices.
  All statements are about the definitions GENERATED from
  vc2_conformance/pseudocode/quantization.py (VC2.Gen.Kernels), for every index ≥ 0
  (unbounded, so in particular 0–255) and every integer coefficient.
-/
import VC2.Proofs.Quant
set_option linter.unusedVariables false
namespace VC2.Props.C12
open VC2 VC2.Gen VC2.Proofs.Quant

/-- definedness: for every index ≥ 0 the four functions never raise / fall through. -/
theorem quant_defined (i x : Int) (hi : 0 ≤ i) :
    quant_factor_ok i = true ∧ quant_offset_ok i = true ∧
    forward_quant_ok x i = true ∧ inverse_quant_ok x i = true := by
  -- in both, `simp` leaves that the branches of the code are exhaustive
  have hf : quant_factor_ok i = true := by
    have h0 : 0 ≤ i / 4 := by omega
    unfold quant_factor_ok
    simp [pydiv4, pymod4, h0]
    omega
  have hs : sign_ok x = true := by
    unfold sign_ok
    simp
    omega
  have ho : quant_offset_ok i = true := by
    unfold quant_offset_ok; split
    · rfl
    · split
      · rfl
      · simp [hf]
  refine ⟨hf, ho, ?_, ?_⟩
  · unfold forward_quant_ok
    have : quant_factor i ≠ 0 := by have := quant_factor_ge_4' i; omega
    simp [hf, this]
  · unfold inverse_quant_ok
    simp [hf, ho, hs]

/-- quantisation factors are at least 4 (one step = quant_factor/4 ≥ 1). -/
theorem quant_factor_ge_4 (i : Int) (hi : 0 ≤ i) : 4 ≤ quant_factor i :=
  quant_factor_ge_4' i

/-- quantisation factors strictly increase with the index (every index ≥ 0). -/
theorem quant_factor_strict_mono (i : Int) (hi : 0 ≤ i) :
    quant_factor i < quant_factor (i + 1) :=
  (quant_factor_step i hi).1

/-- |dequant(quant x) − x| is strictly less than one step (quant_factor/4), every index ≥ 0,
    every integer x. -/
theorem recon_bound (i x : Int) (hi : 0 ≤ i) :
    4 * pyabs (inverse_quant (forward_quant x i) i - x) < quant_factor i := by
  by_cases hx : 0 ≤ x
  · have g := recon_nonneg i x hi hx
    unfold pyabs; split <;> omega
  · have g := recon_nonneg i (-x) hi (by omega)
    rw [recon_neg i x (by omega)]
    unfold pyabs; split <;> omega

/-- the reconstruction keeps the sign of the coefficient, or is zero -/
theorem recon_sign (i x : Int) (hi : 0 ≤ i) :
    inverse_quant (forward_quant x i) i = 0 ∨
      sign (inverse_quant (forward_quant x i) i) = sign x := by
  by_cases hx : 0 ≤ x
  · have g := recon_nonneg i x hi hx
    by_cases h0 : inverse_quant (forward_quant x i) i = 0
    · exact Or.inl h0
    · right; rw [sign_eq, sign_eq, if_pos (by omega), if_pos (by omega)]
  · have g := recon_nonneg i (-x) hi (by omega)
    rw [recon_neg i x (by omega)]
    by_cases h0 : inverse_quant (forward_quant (-x) i) i = 0
    · left; omega
    · right
      rw [sign_eq, sign_eq, if_neg (by omega), if_neg (by omega), if_neg (by omega), if_neg (by omega)]

/-- index 0 is exactly lossless: the error is below a quarter of the factor 4 -/
theorem lossless_index_0 (x : Int) : inverse_quant (forward_quant x 0) 0 = x := by
  have := recon_bound 0 x (by decide)
  rw [qf_0] at this
  unfold pyabs at this; split at this <;> omega

/-- the dequantised value of 1 strictly increases for every index from 7 upward … -/
theorem iq1_strict_mono (i : Int) (hi : 7 ≤ i) :
    inverse_quant 1 i < inverse_quant 1 (i + 1) := by
  by_cases h7 : i = 7
  · subst h7; decide
  · rw [iq1_eq i (by omega), iq1_eq (i + 1) (by omega)]
    exact f1_lt _ _ ((quant_factor_step i (by omega)).2 (by omega))

/-- … and 7 is the least such index: indices 5 and 6 dequantise 1 to the same value. -/
theorem iq1_not_mono_below_7 : ¬ (inverse_quant 1 5 < inverse_quant 1 6) := by decide

/-- the constant the lossless-quantisation test case relies on
    (`MINIMUM_DISTINCT_QINDEX`, exported from the source) is a sound choice. -/
theorem minimum_distinct_qindex_sound (i : Int) (hi : MINIMUM_DISTINCT_QINDEX ≤ i) :
    inverse_quant 1 i < inverse_quant 1 (i + 1) :=
  iq1_strict_mono i (by have : (7 : Int) ≤ MINIMUM_DISTINCT_QINDEX := by decide
                        omega)

/-- non-vacuity / concrete instances -/
example : quant_factor 0 = 4 ∧ quant_factor 5 = 10 ∧ quant_factor 255 = 62047203858893490829 := by decide
example : forward_quant (-1000) 23 = -18 ∧ inverse_quant (-18) 23 = -995 ∧ quant_factor 23 = 215 := by
  decide

end VC2.Props.C12
