/-
  C24 — test-case generation is deterministic and schedule-independent.  Property theorems only.
  PARTIAL: proved on the file-system model (VC2/Model/WorkerFs.lean) is schedule independence —
  if no two worker commands write the same path, every interleaving of the commands' writes (any
  order, any degree of concurrency, each command's own writes in order) leaves exactly the same
  files.  That the commands' write sets ARE disjoint (unique test-case names, directories keyed by
  codec and encoder/decoder) and that each command writes the same bytes in every process and under
  every hash seed are established by running the real commands and tracing their writes.
-/
import VC2.Model.WorkerFs
namespace VC2.Props.C24
open VC2.Model.WorkerFs

/-- what a schedule leaves at `p` depends on the initial file system only through `p` -/
theorem run_congr (p : String) : ∀ (events : List Event) (fs fs' : Fs), fs p = fs' p →
    run fs events p = run fs' events p
  | [], _, _, h => h
  | e :: es, fs, fs', h => run_congr p es (write fs e) (write fs' e) (by simp only [write, h])

/-- … and only on its writes to `p` -/
theorem run_filter (p : String) : ∀ (events : List Event) (fs : Fs),
    run fs events p = run fs (events.filter (·.path == p)) p
  | [], _ => rfl
  | e :: es, fs => by
    rw [List.filter_cons]
    split
    · exact run_filter p es (write fs e)
    · next hp =>
      refine (run_filter p es (write fs e)).trans (run_congr p _ _ _ ?_)
      exact if_neg fun h => hp (beq_iff_eq.2 h.symm)

/-- when all writers of `p` belong to command `c`, the writes to `p` are among those of `c` -/
theorem filter_path_ofCmd (events : List Event) (p : String) (c : Nat)
    (h : ∀ e ∈ events, e.path = p → e.cmd = c) :
    events.filter (·.path == p) = (ofCmd events c).filter (·.path == p) := by
  unfold ofCmd
  rw [List.filter_filter]
  refine List.filter_congr fun e he => ?_
  by_cases hpe : e.path = p
  · simp [hpe, h e he hpe]
  · simp [hpe]

/-- the writes to one path all come from one command, so they are the same in both schedules -/
theorem filter_path_eq (e1 e2 : List Event) (hd1 : PathsDisjoint e1)
    (hsame : ∀ c, ofCmd e1 c = ofCmd e2 c) (p : String) :
    e1.filter (·.path == p) = e2.filter (·.path == p) := by
  -- both schedules have the same events: each event is among those of its command
  have mem_of : ∀ {a b : List Event}, (∀ c, ofCmd a c = ofCmd b c) → ∀ e ∈ a, e ∈ b := fun hab e h =>
    (List.mem_filter.1 (hab e.cmd ▸ List.mem_filter.2 ⟨h, beq_self_eq_true _⟩ : e ∈ ofCmd _ e.cmd)).1
  by_cases hex : ∃ e ∈ e1, e.path = p
  · obtain ⟨e0, he0, hp0⟩ := hex
    rw [filter_path_ofCmd e1 p e0.cmd fun e he hpe => hd1 e he e0 he0 (hpe.trans hp0.symm),
      filter_path_ofCmd e2 p e0.cmd fun e he hpe =>
        hd1 e (mem_of (fun c => (hsame c).symm) e he) e0 he0 (hpe.trans hp0.symm), hsame]
  · have none : ∀ {l : List Event}, (∀ e ∈ l, e ∈ e1) → l.filter (·.path == p) = [] := fun hl =>
      List.filter_eq_nil_iff.2 fun e he h => hex ⟨e, hl e he, beq_iff_eq.1 h⟩
    rw [none fun _ h => h, none (mem_of fun c => (hsame c).symm)]

/-- **schedule independence**: two schedules in which every command performs the same writes in
    the same order (serial in any order, shuffled, or concurrently interleaved) leave the same file
    system, provided no two commands write the same path -/
theorem schedule_independent (fs : Fs) (e1 e2 : List Event) (hd : PathsDisjoint e1)
    (hsame : ∀ c, ofCmd e1 c = ofCmd e2 c) (p : String) : run fs e1 p = run fs e2 p := by
  rw [run_filter p e1, run_filter p e2, filter_path_eq e1 e2 hd hsame p]

/-- without disjointness the outcome does depend on the schedule (why unique names matter) -/
example : run (fun _ => none) [⟨0, "a", 1⟩, ⟨1, "a", 2⟩] "a" ≠ run (fun _ => none) [⟨1, "a", 2⟩, ⟨0, "a", 1⟩] "a" := by
  decide

example : run (fun _ => none) [⟨0, "x", 1⟩, ⟨1, "y", 2⟩, ⟨0, "z", 3⟩] "z" =
    run (fun _ => none) [⟨1, "y", 2⟩, ⟨0, "x", 1⟩, ⟨0, "z", 3⟩] "z" := by decide

end VC2.Props.C24
