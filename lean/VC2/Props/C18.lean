/-
  C18 — The data-unit pattern matcher implements its regular-expression language.
  Model: VC2/Model/SymRe.lean (hand-written: parser, Thompson construction with node ids,
  iterated ε-closure, match_symbol / is_complete / valid_next_symbols), tied to symbol_re.py by
  the `re` correspondence.  `Lang` is the standard denotational semantics over real symbols plus
  an end marker: `.` matches every real symbol, `$` matches only the end marker.
-/
import VC2.Proofs.SymReMatcher
set_option linter.unusedVariables false
namespace VC2.Props.C18
open VC2 VC2.Model.SymRe VC2.Proofs.SymRe

/-- the language of pattern `r` over real symbols and the end marker -/
abbrev L (r : Ast) : List Sym → Prop := Lang mrel r

def reals (w : List String) : List Sym := w.map Sym.real

theorem mrel_total (s : String) : ∃ a : Sym, mrel s a := ⟨.real s, by simp [mrel, labelMatches]⟩

/-- **Thompson construction is exact**: runs from the start to the final node of the automaton
    built for `r` spell exactly the words of `L r` (any node numbering offset `n`). -/
theorem automaton_exact (r : Ast) (n : Nat) (w : List Sym) :
    Path mrel (build r n).edges (build r n).start w (build r n).final ↔ L r w :=
  ⟨build_sound mrel r n w, fun h => build_complete mrel r w h n⟩

/-- … and it is trim: every node can still reach the final node. -/
theorem automaton_trim (r : Ast) (n q : Nat) (hq : n ≤ q ∧ q < (build r n).next) :
    ∃ w, Path mrel (build r n).edges q w (build r n).final :=
  build_trim mrel mrel_total r n q hq

theorem init_ok (r : Ast) : MOk (Matcher.init false r) := by
  have ⟨hs, _, he⟩ := build_range r 0
  exact ⟨rfl, ⟨fun e h => ⟨(he e h).1.2, (he e h).2.2⟩⟩,
    fun x hx => by cases List.mem_singleton.1 hx; exact hs.2, by simp [Matcher.init]⟩

/-- **the state of the matcher** for `r` after the symbols `w`: its closed node set holds exactly
    the nodes of the automaton that a run on `w` reaches from the start node.  The three
    statements below are read off from this. -/
theorem closed_iff {r : Ast} {w : List String} {mt : Matcher}
    (hrun : (Matcher.init false r).run w = some mt) : mt.frag = build r 0 ∧
    ∀ q, q ∈ mt.closed ↔ Path mrel (build r 0).edges (build r 0).start (reals w) q := by
  obtain ⟨_, hf, hc⟩ := run_closed w (init_ok r) hrun
  exact ⟨hf, fun q => (hc q).trans (by simp [Matcher.init, reals])⟩

/-- **The matcher accepts each next symbol exactly when the sequence so far (with it) is a prefix
    of some matching sequence**: all of `match_symbol w₁ … wₙ` return True iff `w` can be
    extended to a word of the language. -/
theorem accepts_iff_prefix (r : Ast) (w : List String) :
    ((Matcher.init false r).run w).isSome = true ↔ ∃ v : List Sym, L r (reals w ++ v) := by
  rw [run_isSome_iff (init_ok r), ← build_prefix mrel mrel_total r 0]
  simp [Matcher.init, reals]

/-- **Completion is reported exactly when the whole sequence matches**: `w` itself is in the
    language, or the end marker may follow (`w · $ …` is in the language). -/
theorem complete_iff (r : Ast) (w : List String) (mt : Matcher)
    (hrun : (Matcher.init false r).run w = some mt) :
    mt.isComplete = true ↔ (L r (reals w) ∨ ∃ v : List Sym, L r (reals w ++ Sym.endm :: v)) := by
  obtain ⟨hf, hc⟩ := closed_iff hrun
  -- an edge labelled `$` leaves the state iff `w · $` labels a run, iff `w · $` is a prefix
  have hend := build_prefix mrel mrel_total r 0 (reals w ++ [Sym.endm])
  rw [Path.snoc_iff] at hend
  simp only [List.append_assoc, List.singleton_append] at hend
  rw [isComplete_iff, hf, hc, automaton_exact, ← hend]
  refine or_congr Iff.rfl ⟨?_, ?_⟩
  · rintro ⟨x, hx, y, he⟩; exact ⟨x, END, y, (hc x).1 hx, he, rfl⟩
  · rintro ⟨x, s, y, hp, he, rfl⟩; exact ⟨x, (hc x).2 hp, y, he⟩

/-- **The valid next symbols are exactly those that keep a match possible**: a real symbol `a` is
    covered by the listed set (it is listed, or the wildcard is) iff `match_symbol a` succeeds,
    and the end-of-sequence entry is listed iff the sequence is complete. -/
theorem valid_next_exact (r : Ast) (w : List String) (mt : Matcher)
    (hrun : (Matcher.init false r).run w = some mt) (a : String) (ha : a ≠ END) :
    ((∃ l ∈ mt.validNext, labelMatches l a = true) ↔ (mt.matchSymbol a).isSome = true) ∧
    (END ∈ mt.validNext ↔ mt.isComplete = true) :=
  validNext_exact mt a ha

/-- historical defect F1 (repaired by the `fix:` commit): with empty transitions followed in both
    directions the automaton over-accepts — `a?b` accepted `a a b`.  Kept as a negation witness;
    the `re` correspondence runs the model with directed ε-edges only. -/
theorem bidirectional_epsilon_overaccepts :
    ((Matcher.init true (.cat (.alt (.sym "a") .empty) (.sym "b"))).run ["a", "a", "b"]).isSome = true ∧
    ((Matcher.init false (.cat (.alt (.sym "a") .empty) (.sym "b"))).run ["a", "a", "b"]).isSome = false := by
  decide +kernel

/-- non-vacuity: a concrete pattern `(a|b)* c $`, its parse, and concrete verdicts -/
example : (parseRegex [.lpar, .str "a", .bar, .str "b", .rpar, .modifier '*', .str "c", .eos]).toOption
    = some (.cat (.star (.alt (.sym "a") (.sym "b"))) (.cat (.sym "c") (.sym END))) := by decide +kernel
example :
    let r : Ast := .cat (.star (.alt (.sym "a") (.sym "b"))) (.cat (.sym "c") (.sym END))
    ((Matcher.init false r).run ["a", "b", "c"]).map (·.isComplete) = some true ∧
    ((Matcher.init false r).run ["a", "c", "a"]).isSome = false := by decide +kernel

end VC2.Props.C18
