/-
  C01 — the history-level statement: **the validator accepts a history of individually valid data
  units if and only if the history obeys the stream-structure rules.**  Property theorems only.

  The rules are `VC2.Model.StreamSpec.conformant` (read that file: it mentions no byte position, no
  optional state key, no exception class and no order of checks — per sequence: sequence header
  first, parse offsets, byte-identical repeated headers, profile/version-permitted parse codes,
  consecutive picture numbers with an even first field, well-formed fragmented pictures, the generic
  and the level ordering patterns, whole frames, complete fragmented pictures and the least major
  version at the end).  The validator is `VC2.Model.Stream.validate`, tied to decoder/*.py by the
  `vd` correspondence; the rules are additionally compared with the Python reference acceptor used
  as the search oracle (`cs` correspondence), and the meaning of the two ordering-pattern conditions
  as regular languages is C18's theorem (`accepts_iff_prefix`, `complete_iff`).
  Helper lemmas: VC2/Proofs/StreamSpec.lean.
-/
import VC2.Proofs.StreamSpec
import VC2.Proofs.StreamRules
namespace VC2.Props.C01
open VC2 VC2.Model.SymRe VC2.Model.Stream VC2.Model.StreamSpec VC2.Proofs.StreamSpec VC2.Model.StreamRules

/-- "assembled from individually valid data units": every unit's parse code is one of the eight of
    the standard and is dispatched as its kind, every unit is at least a parse_info header long, and
    within a sequence byte-identical sequence headers carry identical parameters -/
def WellFormed (us : List DUnit) : Prop :=
  (∀ u ∈ us, unitWF u = true) ∧ hdrsAgree none us = true

/-- **C01, history level**: for every history (any length, any number of sequences, any offsets,
    numbers, profiles, versions, level pattern) the validator model accepts iff the rules hold -/
theorem validator_accepts_iff_conformant (cfg : Config) (us : List DUnit) (h : WellFormed us) :
    (validate cfg us).1 = .ok ↔ conformant cfg us = true :=
  (run_spec cfg us h.1).1 0 [] h.2

/-- **the rules, one at a time** (read `VC2/Model/StreamRules.lean`: eight small checkers, each with its
    own memory, none looking at another's): the validator accepts a history of individually valid data
    units iff (1) every sequence starts with a sequence header and the stream ends after an
    end-of-sequence, (2) the parse offsets are right, (3) repeated sequence headers are byte-identical
    and the version admits the profile, (4) every parse code is permitted by profile and version,
    (5) picture numbers are consecutive with an even first field and whole frames, (6) fragmented pictures
    are well formed and complete, (7) the major version is the least one needed, (8) the generic and the
    level ordering patterns match -/
theorem validator_accepts_iff_all_rules (cfg : Config) (us : List DUnit) (h : WellFormed us) :
    (validate cfg us).1 = .ok ↔
      (shapeRule false us = true ∧ offsetsRule none us = true ∧ headersRule none us = true ∧
       codesRule none us = true ∧ numbersRule none us = true ∧ fragmentsRule cfg none us = true ∧
       versionRule none us = true ∧ patternsRule cfg none us = true) := by
  rw [validator_accepts_iff_conformant cfg us h, conformant, (VC2.Proofs.StreamRules.spec_eq_rules cfg us).1]
  simp only [allRules, Bool.and_eq_true, and_assoc]

/-- … and every history the rules do not accept is *rejected with a conformance error* (or the
    padding desynchronisation marker), never with another exception — together with
    `validate_never_crashes` this is the full statement of C01 on the model -/
theorem not_conformant_is_rejected (cfg : Config)
    (hlevel : (Matcher.init false cfg.levelPattern).matchSymbol "sequence_header" ≠ none)
    (us : List DUnit) (h : WellFormed us) (hn : conformant cfg us = false) :
    (∃ cls, (validate cfg us).1 = .reject cls) ∨ (validate cfg us).1 = .desync := by
  have h1 : (validate cfg us).1 ≠ .ok := by
    intro hok
    rw [(validator_accepts_iff_conformant cfg us h).1 hok] at hn; cases hn
  have h2 := validate_never_crashes cfg hlevel us (fun u hu => by
    intro hc
    exact ((codeFacts u (h.1 u hu)).hdr).1 hc)
  cases hv : (validate cfg us).1 with
  | ok => exact absurd hv h1
  | reject cls => exact Or.inl ⟨cls, rfl⟩
  | desync => exact Or.inr rfl
  | crash w => rw [hv] at h2; exact absurd trivial h2

/-- an accepted stretch of a stream, from any point inside or between sequences, ends between sequences -/
theorem specRun_append (cfg : Config) (us2 : List DUnit) : ∀ (us : List DUnit) (o : Option Ctx),
    specRun cfg o us = true → specRun cfg o (us ++ us2) = specRun cfg none us2 := by
  intro us
  induction us with
  | nil =>
    intro o h
    cases o with
    | none => rfl
    | some c => simp [specRun] at h
  | cons u rest ih =>
    intro o h
    cases o with
    | none =>
      rw [specRun_none_cons] at h
      obtain ⟨g, l, hg, hl, hh, hs⟩ := h
      rw [List.cons_append, specRun]
      simp only [hg, hl, hh, Bool.true_and]
      exact ih _ hs
    | some c =>
      rw [specRun_some_cons] at h
      obtain ⟨g, l, hg, hl, hu, hr⟩ := h
      rw [List.cons_append, specRun]
      simp only [hg, hl, hu, Bool.true_and]
      by_cases hk : u.kind = .eos
      · rw [if_pos hk] at hr ⊢
        rw [hr.1, Bool.true_and]
        exact ih _ hr.2
      · rw [if_neg hk] at hr ⊢
        exact ih _ hr

/-- sequences are judged independently: the rules hold for a concatenation of two streams iff they
    hold for each (the rule-level face of C10) -/
theorem conformant_append (cfg : Config) (us1 us2 : List DUnit) (h1 : conformant cfg us1 = true) :
    conformant cfg (us1 ++ us2) = conformant cfg us2 :=
  specRun_append cfg us2 us1 none h1

/-! ### non-vacuity: the hypotheses are met by concrete histories on both sides of the iff -/

example : WellFormed [hdr 0, pic 7 30, fr0 8 50, frd 8 1 0 0 40, frd 8 1 1 0 45, eos 45] := by
  constructor <;> decide
example : conformant cfg0 [hdr 0, pic 7 30, fr0 8 50, frd 8 1 0 0 40, frd 8 1 1 0 45, eos 45] = true := by
  decide +kernel
example : conformant cfg0 [hdr 0, fr0 8 30, frd 8 2 0 0 40, eos 45, hdr 0, eos 30] = true := by decide +kernel
example : conformant cfg0 [hdr 0, pic 7 30, eos 50] = false := by decide +kernel                    -- version 3 without fragments
example : conformant cfg0 [hdr 0, pic 7 30, pic 9 50, eos 50] = false := by decide +kernel
example : conformant cfg0 [hdr 0, fr0 8 30, frd 8 1 1 0 40, eos 45] = false := by decide +kernel
example : conformant cfg0 [hdr 0, fr0 8 30, frd 8 1 0 0 40, eos 45] = false := by decide +kernel   -- incomplete picture
example : conformant cfg0 [hdr 0, pic 7 30] = false := by decide +kernel                            -- no end of sequence
example : conformant cfg0 [pic 7 0, eos 50] = false := by decide +kernel                            -- no header first
-- which rule a non-conformant history breaks: skipped number -> (5) only; slices out of order -> (6) only
example : numbersRule none [hdr 0, pic 7 30, pic 9 50, eos 50] = false ∧
    fragmentsRule cfg0 none [hdr 0, pic 7 30, pic 9 50, eos 50] = true ∧ offsetsRule none [hdr 0, pic 7 30, pic 9 50, eos 50] = true := by
  decide +kernel
example : fragmentsRule cfg0 none [hdr 0, fr0 8 30, frd 8 1 1 0 40, eos 45] = false ∧
    numbersRule none [hdr 0, fr0 8 30, frd 8 1 1 0 40, eos 45] = true := by decide +kernel

end VC2.Props.C01
