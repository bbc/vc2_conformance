/-
  C19 — Sequence completion is sound, complete and shortest.
  Model: `search`/`makeMatchingSequence` in VC2/Model/SymRe.lean — the breadth-first queue search
  exactly as written in symbol_re.make_matching_sequence (greedy consumption of a required
  symbol whenever every matcher accepts it), tied to the code by the `re S` correspondence.

  STATUS: partial.  Soundness is a theorem for all inputs.  Completeness/shortest-ness over ALL
  supersequences is FALSE of the unchanged code (finding F5): the witness below is checked by the
  kernel on the model and replayed on the real function by the check on every run.
-/
import VC2.Proofs.SymReSearch
import VC2.Props.C18
set_option linter.unusedVariables false
namespace VC2.Props.C19
open VC2 VC2.Model.SymRe VC2.Proofs.SymRe VC2.Props.C18

/-- **Soundness**: whenever the generator returns, its result contains the required symbols in
    order with only insertions, and matches every supplied pattern (each matcher accepted every
    symbol and reports completion) — for every required list, pattern set, depth limit, priority
    list and queue budget. -/
theorem make_matching_sequence_sound (required : List String) (pats : List Ast) (depthLimit : Nat)
    (priority : List String) (fuel : Nat) (l : List String)
    (hreq : ∀ a ∈ required, a ≠ END) (hprio : ∀ a ∈ priority, a ≠ END)
    (h : makeMatchingSequence false required pats depthLimit priority fuel = some l) :
    required.Sublist l ∧
    ∀ p ∈ pats, ∃ mt, (Matcher.init false p).run l = some mt ∧ mt.isComplete = true := by
  unfold makeMatchingSequence at h
  have hinit : ∀ it, it ∈ [Item.initial false required pats depthLimit] → ItemOk required pats it := by
    intro it hit
    rw [List.mem_singleton] at hit; subst hit
    unfold Item.initial
    refine ⟨⟨[], by simp, List.Sublist.refl _⟩, ?_⟩
    simp [StatesOf, Matcher.run]
  obtain ⟨hsub, ms, hstates, hcomplete⟩ :=
    search_sound required pats depthLimit priority hreq hprio fuel _ hinit l h
  refine ⟨hsub, ?_⟩
  intro p hp
  obtain ⟨mt, hmt, hr⟩ := states_of_pattern hstates p hp
  exact ⟨mt, hr, hcomplete mt hmt⟩

/-- … hence (with C18) the result is a word of every pattern's language, or may be followed by
    the end marker. -/
theorem result_in_every_language (required : List String) (pats : List Ast) (depthLimit : Nat)
    (priority : List String) (fuel : Nat) (l : List String)
    (hreq : ∀ a ∈ required, a ≠ END) (hprio : ∀ a ∈ priority, a ≠ END)
    (h : makeMatchingSequence false required pats depthLimit priority fuel = some l) :
    ∀ p ∈ pats, (L p (reals l) ∨ ∃ v : List Sym, L p (reals l ++ Sym.endm :: v)) := by
  intro p hp
  obtain ⟨mt, hr, hc⟩ :=
    (make_matching_sequence_sound required pats depthLimit priority fuel l hreq hprio h).2 p hp
  exact (complete_iff p l mt hr).1 hc

/-- the full statement of the property's second half, kept visible -/
def CompleteAndShortest : Prop :=
  ∀ (required : List String) (pats : List Ast) (depthLimit : Nat) (l' : List String),
    (∀ a ∈ required, a ≠ END) →
    -- if SOME valid completion `l'` exists (ignoring the consecutive-insertion limit being generous) …
    required.Sublist l' → l'.length ≤ required.length + depthLimit →
    (∀ p ∈ pats, ∃ mt, (Matcher.init false p).run l' = some mt ∧ mt.isComplete = true) →
    -- … the generator finds one that is no longer
    ∃ l, makeMatchingSequence false required pats depthLimit [] 100000 = some l ∧ l.length ≤ l'.length

def patA : Ast := .cat (.sym "a") (.cat (.sym WILDCARD) (.sym "c"))                       -- a . c
def patB : Ast := .cat (.star (.alt (.sym "a") (.sym "b"))) (.cat (.sym "c") (.sym END))  -- (a|b)* c $

/-- **negation witness (finding F5)**: required `[c]`, patterns `a . c` and `(a|b)* c $`, depth
    limit 3: the greedy search gives up although `[a, a, c]` (2 insertions) is a valid completion. -/
theorem greedy_search_incomplete :
    makeMatchingSequence false ["c"] [patA, patB] 3 [] 100000 = none ∧
    (["c"].Sublist ["a", "a", "c"]) ∧
    (((Matcher.init false patA).run ["a", "a", "c"]).map (·.isComplete) = some true) ∧
    (((Matcher.init false patB).run ["a", "a", "c"]).map (·.isComplete) = some true) := by
  refine ⟨by decide +kernel, ?_, by decide +kernel, by decide +kernel⟩
  exact (List.Sublist.refl ["c"]).cons "a" |>.cons "a"

theorem not_complete_and_shortest : ¬ CompleteAndShortest := by
  intro h
  obtain ⟨h1, h2, h3, h4⟩ := greedy_search_incomplete
  have := h ["c"] [patA, patB] 3 ["a", "a", "c"] (by decide) h2 (by decide) (by
    intro p hp
    simp only [List.mem_cons, List.not_mem_nil, or_false] at hp
    rcases hp with rfl | rfl
    · cases hr : (Matcher.init false patA).run ["a", "a", "c"] with
      | none => rw [hr] at h3; cases h3
      | some mt => rw [hr] at h3; exact ⟨mt, rfl, by simpa using h3⟩
    · cases hr : (Matcher.init false patB).run ["a", "a", "c"] with
      | none => rw [hr] at h4; cases h4
      | some mt => rw [hr] at h4; exact ⟨mt, rfl, by simpa using h4⟩)
  obtain ⟨l, hl, _⟩ := this
  rw [h1] at hl; cases hl

/-- non-vacuity: a concrete successful completion -/
example : makeMatchingSequence false ["b"] [.cat (.sym "a") (.cat (.sym "b") (.sym "c"))] 3 [] 1000
    = some ["a", "b", "c"] := by decide +kernel

end VC2.Props.C19
