/-
  C08 — the bitstream deserialiser and the validator read identical content.  Property theorems
  only, on the C20 model of the two readers (VC2/Model/BitIO.lean).  PARTIAL: proved is the
  slice level — inside any bounded block (any contents, any length >= 0) the BitstreamReader used by
  the deserialiser and the validator's reader return the same coefficient lists, stay in
  corresponding states, and end the block at the same position; header fields are read by both
  through the same primitive kinds (C20 round trips).  That both parsers apply the same sequence of
  reads, and that dequantisation + DC prediction of the deserialised values equals the validator's
  transform data, is established by the correspondence on real streams.
-/
import VC2.Props.C20
namespace VC2.Props.C08
open VC2 VC2.Model.BitIO VC2.Proofs.BitIO


/-- `n` successive `read_sint` calls (one slice band / a whole slice component) -/
def Reader.readSints : Nat → Reader → Except IOErr (List Int × Reader)
  | 0, r => .ok ([], r)
  | n + 1, r => do
    let (v, r1) ← r.readSint
    let (vs, r2) ← Reader.readSints n r1
    pure (v :: vs, r2)

def DReader.readSintsb : Nat → DReader → Except IOErr (List Int × DReader)
  | 0, d => .ok ([], d)
  | n + 1, d => do
    let (v, d1) ← d.readSintG true
    let (vs, d2) ← DReader.readSintsb n d1
    pure (v :: vs, d2)

/-- both parsers read the same coefficient lists from a bounded block, whatever its contents and
    length, and are left in corresponding states (same position, same bits remaining) -/
theorem coefficient_runs_agree : ∀ (n : Nat) (r : Reader) (d : DReader), Sim r d →
    Agree (Reader.readSints n r) (DReader.readSintsb n d) := by
  intro n
  induction n with
  | zero => intro r d h; simp [Reader.readSints, DReader.readSintsb, AgreeR]; exact h
  | succ n ih =>
    intro r d h
    unfold Reader.readSints DReader.readSintsb
    apply agree_bind _ _ _ _ (sim_readSint r d h)
    intro v r1 d1 hs
    apply agree_bind _ _ _ _ (ih r1 d1 hs)
    intro vs r2 d2 hs2
    simp [AgreeR, pure, Except.pure]; exact hs2

/-- reading `k` bits as padding and flushing `k` bits end at the same position -/
theorem readBits_flushLoop : ∀ (k : Nat) (r : Reader) (d : DReader), Sim0 r d →
    match Reader.readBits k r, DReader.flushLoop k d with
    | .ok (_, r'), .ok d' => Sim0 r' d'
    | .error e, .error e' => e = e'
    | _, _ => False := by
  intro k
  induction k with
  | zero => intro r d h; exact h
  | succ k ih =>
    intro r d h
    have hb := sim0_readBit r d h
    simp only [Reader.readBits, DReader.flushLoop, bind, Except.bind]
    cases e1 : r.readBit with
    | error e => simp only [hb.error e1]
    | ok p =>
      obtain ⟨d1, e2, hs⟩ := hb.ok (x := p.1) (r' := p.2) e1
      have := ih p.2 { d1 with bitsLeft := d1.bitsLeft - 1 } hs
      simp only [e2]
      revert this
      cases Reader.readBits k p.2 <;> cases DReader.flushLoop k { d1 with bitsLeft := d1.bitsLeft - 1 } <;>
        exact id

/-- **end of a bounded block**: the deserialiser closes the block and reads the unused bits as
    padding; the validator flushes `bits_left` bits: both end at the same position (or both hit the
    end of the input) -/
theorem block_end_agrees (r : Reader) (d : DReader) (h : Sim r d) :
    match (do let (n, r1) ← r.boundedBlockEnd; Reader.readBits n.toNat r1), d.flushInputb with
    | .ok (_, r'), .ok d' => r'.all = d'.all ∧ r'.pos = d'.pos ∧ r'.rem = none
    | .error e, .error e' => e = e'
    | _, _ => False := by
  obtain ⟨ha, hp, n, hn, hl⟩ := h
  simp only [Reader.boundedBlockEnd, hn, bind, Except.bind, DReader.flushInputb, hl]
  exact readBits_flushLoop _ { r with rem := none } d ⟨ha, hp, rfl⟩

/-- entering a block of `n >= 0` bits puts the two readers in corresponding states -/
theorem block_begin_corresponds (all : List Bool) (pos : Nat) (n : Int) (hn : 0 ≤ n) :
    Sim { all := all, pos := pos, rem := some n } { all := all, pos := pos, bitsLeft := n } :=
  (VC2.Props.C20.readers_agree all pos n hn).1

example : (Reader.readSints 3 { all := [false, true, true, true, false, false, true, false], pos := 0, rem := some 5 }).toOption.map (·.1)
    = (DReader.readSintsb 3 { all := [false, true, true, true, false, false, true, false], pos := 0, bitsLeft := 5 }).toOption.map (·.1) := by
  decide

end VC2.Props.C08
