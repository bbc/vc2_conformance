/-
  Lemmas for C11 (wavelet transforms).  Core Lean only.
-/
import VC2.Model.Wavelet
namespace VC2.Proofs.Wavelet
open VC2 VC2.Model.Wavelet

/-! ### one lifting stage -/

theorem parity_le (k : LiftKind) : k.parity ≤ 1 := by cases k <;> decide
theorem swap_parity (k : LiftKind) : k.swap.parity = k.parity := by cases k <;> rfl
theorem swap_sgn (k : LiftKind) : k.swap.sgn = -k.sgn := by cases k <;> rfl

/-- every position a lift reads has the parity it does NOT update (all three candidates of the
    clamp have it, the array length being even) -/
theorem readPos_parity (p len n : Nat) (i : Int) (hp : p ≤ 1) (hev : len % 2 = 0) :
    readPos p len n i % 2 ≠ p := by
  unfold readPos
  split <;> omega

/-- … and lies inside the array -/
theorem readPos_lt (p len n : Nat) (i : Int) (h2 : 2 ≤ len) : readPos p len n i < len := by
  unfold readPos
  split <;> omega

theorem tapSum_congr (f g : Vec) (p len n : Nat) (D : Int) (taps : List Int)
    (hp : p ≤ 1) (hev : len % 2 = 0) (hfg : ∀ j, j % 2 ≠ p → f.get j = g.get j) :
    ∀ cnt j, tapSum f p len n D taps cnt j = tapSum g p len n D taps cnt j := by
  intro cnt
  induction cnt with
  | zero => intro j; rfl
  | succ c ih =>
    intro j
    simp only [tapSum]
    rw [hfg _ (readPos_parity p len n (D + j) hp hev), ih]

/-- the amount a stage adds depends only on the positions of the other parity -/
theorem delta_congr (st : Stage) (f g : Vec) (len n : Nat) (hev : len % 2 = 0)
    (hfg : ∀ j, j % 2 ≠ st.kind.parity → f.get j = g.get j) :
    delta st f len n = delta st g len n := by
  unfold delta
  rw [tapSum_congr f g _ len n st.D st.taps (parity_le _) hev hfg]

theorem delta_swapped (st : Stage) (f : Vec) (len n : Nat) :
    delta st.swapped f len n = delta st f len n := by
  unfold delta Stage.swapped; simp only [swap_parity]

/-- position `2 * k + p` is the `k`-th of parity `p` -/
theorem index_self (p k : Nat) (hp : p ≤ 1) : (2 * k + p) % 2 = p ∧ (2 * k + p) / 2 = k := by
  have hp : p < 2 := Nat.lt_succ_of_le hp
  rw [Nat.mul_add_mod, Nat.mod_eq_of_lt hp, Nat.mul_add_div (by decide), Nat.div_eq_of_lt hp]
  exact ⟨rfl, rfl⟩

/-- … and the only one that joins the first `k` positions of parity `p` at step `k` -/
theorem index_other (p k j : Nat) (hj : j ≠ 2 * k + p) :
    (j % 2 = p ∧ j / 2 < k + 1) ↔ (j % 2 = p ∧ j / 2 < k) :=
  ⟨fun ⟨h1, h2⟩ => ⟨h1, Nat.lt_of_le_of_ne (Nat.le_of_lt_succ h2) (fun e => hj (by rw [← Nat.div_add_mod j 2, e, h1]))⟩,
   fun ⟨h1, h2⟩ => ⟨h1, Nat.lt_succ_of_lt h2⟩⟩

/-- the sequential in-place loop after `k` iterations, in closed form: the first `k` positions of the
    stage's parity have received their delta, and that delta is the one of the ORIGINAL array, since
    it reads only positions the loop never writes -/
theorem liftLoop_get (st : Stage) (len : Nat) (f : Vec) (hev : len % 2 = 0) (k : Nat) : ∀ j,
    ((List.range k).foldl (liftStep st len) f).get j =
      if j % 2 = st.kind.parity ∧ j / 2 < k then f.get j + st.kind.sgn * delta st f len (j / 2) else f.get j := by
  induction k with
  | zero => intro j; simp only [List.range_zero, List.foldl_nil, Nat.not_lt_zero, and_false, if_false]
  | succ k ih =>
    intro j
    rw [List.range_succ, List.foldl_append]
    generalize (List.range k).foldl (liftStep st len) f = g at ih
    have hd : delta st g len k = delta st f len k :=
      delta_congr st g f len k hev (fun i hi => by rw [ih i, if_neg (fun h => hi h.1)])
    have ⟨h1, h2⟩ := index_self st.kind.parity k (parity_le _)
    simp only [List.foldl_cons, List.foldl_nil, liftStep, upd]
    by_cases hj : j = 2 * k + st.kind.parity
    · subst hj
      simp only [if_true, hd, ih, h1, h2, Nat.lt_irrefl, and_false, if_false, Nat.lt_succ_self, and_self]
    · simp only [if_neg hj, ih, index_other _ k j hj]

/-- `lift` in closed form -/
theorem lift_get (st : Stage) (len : Nat) (f : Vec) (hev : len % 2 = 0) (j : Nat) :
    (lift st len f).get j =
      if j % 2 = st.kind.parity ∧ j / 2 < len / 2 then f.get j + st.kind.sgn * delta st f len (j / 2)
      else f.get j := by
  unfold lift; rw [Vec.memo_eq]
  exact liftLoop_get st len f hev (len / 2) j

theorem swapped_swapped (st : Stage) : st.swapped.swapped = st := by
  cases st with | mk k L D t S => cases k <;> rfl

/-- **the analysis lift undoes the synthesis lift**, for every stage and every even-length array:
    it subtracts the same delta at the same positions -/
theorem lift_inverse (st : Stage) (len : Nat) (f : Vec) (hev : len % 2 = 0) :
    lift st.swapped len (lift st len f) = f := by
  apply Vec.ext; funext j
  have hd : delta st.swapped (lift st len f) len (j / 2) = delta st f len (j / 2) := by
    rw [delta_swapped]
    exact delta_congr st _ f len _ hev (fun i hi => by rw [lift_get st len f hev, if_neg (fun h => hi h.1)])
  rw [lift_get _ len _ hev, hd, lift_get st len f hev]
  simp only [Stage.swapped, swap_parity, swap_sgn]
  split
  · rw [Int.neg_mul, Int.add_neg_cancel_right]
  · rfl

/-- and the other way round (synthesis undoes analysis) -/
theorem lift_inverse' (st : Stage) (len : Nat) (f : Vec) (hev : len % 2 = 0) :
    lift st len (lift st.swapped len f) = f := by
  have h := lift_inverse st.swapped len f hev
  rwa [swapped_swapped] at h

/-! ### a filter: a list of stages -/

/-- folding a list of steps and then their inverses in reverse order is the identity -/
theorem foldl_reverse_cancel {α σ : Type} (u v : α → σ → α) (huv : ∀ x s, v (u x s) s = x) :
    ∀ (ss : List σ) (x : α), ss.reverse.foldl v (ss.foldl u x) = x := by
  intro ss
  induction ss with
  | nil => intro x; rfl
  | cons s ss ih =>
    intro x
    simp only [List.reverse_cons, List.foldl_append, List.foldl_cons, List.foldl_nil, ih, huv]

theorem oned_roundtrip' (flt : Filter) (len : Nat) (f : Vec) (hev : len % 2 = 0) :
    onedAnalysis flt len (onedSynthesis flt len f) = f :=
  foldl_reverse_cancel _ _ (fun g st => lift_inverse st len g hev) flt.stages f

/-- `oned_analysis` inverts `oned_synthesis` for every list of stages -/
theorem oned_roundtrip (flt : Filter) (len : Nat) (f : Vec) (hev : len % 2 = 0) :
    onedSynthesis flt len (onedAnalysis flt len f) = f := by
  unfold onedSynthesis onedAnalysis
  have h := foldl_reverse_cancel (α := Vec) (σ := Stage) (fun g st => lift st.swapped len g)
    (fun g st => lift st len g) (fun g st => lift_inverse' st len g hev) flt.stages.reverse f
  rw [List.reverse_reverse] at h
  exact h

/-! ### 2-D building blocks (exact equalities of index functions) -/

theorem Arr.ext {a b : Arr} (hh : a.h = b.h) (hw : a.w = b.w) (hf : a.f = b.f) : a = b := by
  cases a; cases b; simp only at hh hw hf; subst hh hw hf; rfl

theorem shift_roundtrip (s : Nat) (v : Int) (hs : 0 < s) : (v * 2 ^ s + 2 ^ (s - 1)) / 2 ^ s = v := by
  have hp : (0 : Int) < 2 ^ (s - 1) := two_pow_pos _
  have hlt : (2 : Int) ^ (s - 1) < 2 ^ s := by rw [two_pow_pred s hs]; omega
  rw [Int.add_comm, Int.add_mul_ediv_right _ _ (Int.ne_of_gt (two_pow_pos s)),
    Int.ediv_eq_zero_of_lt (Int.le_of_lt hp) hlt, Int.zero_add]

theorem shiftUp_h (s : Nat) (a : Arr) : (shiftUp s a).h = a.h := by unfold shiftUp; split <;> rfl
theorem shiftUp_w (s : Nat) (a : Arr) : (shiftUp s a).w = a.w := by unfold shiftUp; split <;> rfl

theorem shiftDown_shiftUp (s : Nat) (a : Arr) : shiftDown s (shiftUp s a) = a := by
  unfold shiftDown shiftUp
  split
  · next hs => exact Arr.ext rfl rfl (by funext y x; exact shift_roundtrip s _ hs)
  · rfl

theorem mapRows_h (g) (a : Arr) : (mapRows g a).h = a.h := rfl
theorem mapRows_w (g) (a : Arr) : (mapRows g a).w = a.w := rfl
theorem mapCols_h (g) (a : Arr) : (mapCols g a).h = a.h := rfl
theorem mapCols_w (g) (a : Arr) : (mapCols g a).w = a.w := rfl

/-- a row-wise routine undone row by row -/
theorem mapRows_cancel (g g' : Nat → Vec → Vec) (a : Arr) (h : ∀ v, g a.w (g' a.w v) = v) :
    mapRows g (mapRows g' a) = a :=
  Arr.ext (mapRows_h _ _) (mapRows_w _ _) (by
    funext y; rw [mapRows_f, mapRows_f, mapRows_w]; exact congrArg Vec.get (h ⟨a.f y⟩))

theorem mapCols_cancel (g g' : Nat → Vec → Vec) (a : Arr) (h : ∀ v, g a.h (g' a.h v) = v) :
    mapCols g (mapCols g' a) = a :=
  Arr.ext (mapCols_h _ _) (mapCols_w _ _) (by
    funext y x; simp only [mapCols_f, mapCols_h]; exact congrArg (·.get y) (h ⟨fun y' => a.f y' x⟩))

/-- `n` from its half and its parity -/
theorem unhalve (n p : Nat) (h : n % 2 = p) : 2 * (n / 2) + p = n := h ▸ Nat.div_add_mod n 2

theorem vhInterleave_sub (t : Arr) (hh : t.h % 2 = 0) (hw : t.w % 2 = 0) :
    vhInterleave (sub t 0 0 (t.h / 2) (t.w / 2)) (sub t 0 1 (t.h / 2) (t.w / 2))
      (sub t 1 0 (t.h / 2) (t.w / 2)) (sub t 1 1 (t.h / 2) (t.w / 2)) = t := by
  refine Arr.ext (unhalve t.h 0 hh) (unhalve t.w 0 hw) ?_
  funext y x
  simp only [vhInterleave, sub]
  rcases Nat.mod_two_eq_zero_or_one y with hy | hy <;> rcases Nat.mod_two_eq_zero_or_one x with hx | hx <;>
    simp only [hy, hx, if_true, Nat.one_ne_zero, if_false, unhalve y _ hy, unhalve x _ hx]

theorem hInterleave_split (t : Arr) (hw : t.w % 2 = 0) :
    hInterleave { h := t.h, w := t.w / 2, f := fun y x => t.f y (2 * x) }
      { h := t.h, w := t.w / 2, f := fun y x => t.f y (2 * x + 1) } = t := by
  refine Arr.ext rfl (unhalve t.w 0 hw) ?_
  funext y x
  simp only [hInterleave]
  rcases Nat.mod_two_eq_zero_or_one x with hx | hx
  · simp only [hx, if_true]; rw [← Nat.add_zero (2 * (x / 2)), unhalve x _ hx]
  · simp only [hx, Nat.one_ne_zero, if_false, unhalve x _ hx]

/-- one 2-D level: synthesis of the analysis is the identity (exactly) -/
theorem vh_roundtrip (fv fho : Filter) (a : Arr) (hh : a.h % 2 = 0) (hw : a.w % 2 = 0) :
    let b := vhAnalysis fv fho a
    vhSynthesis fv fho b.1 b.2.1 b.2.2.1 b.2.2.2 = a := by
  have eh := shiftUp_h fho.shift a
  have ew := shiftUp_w fho.shift a
  simp only [vhAnalysis, vhSynthesis]
  rw [vhInterleave_sub _ (by rw [mapCols_h, mapRows_h, eh]; exact hh) (by rw [mapCols_w, mapRows_w, ew]; exact hw),
    mapCols_cancel _ _ _ (fun v => oned_roundtrip fv _ v (by rw [mapRows_h, eh]; exact hh)),
    mapRows_cancel _ _ _ (fun v => oned_roundtrip fho _ v (by rw [ew]; exact hw))]
  exact shiftDown_shiftUp _ _

/-- one horizontal-only level -/
theorem h_roundtrip (fho : Filter) (a : Arr) (hw : a.w % 2 = 0) :
    let b := hAnalysis fho a
    hSynthesis fho b.1 b.2 = a := by
  have ew := shiftUp_w fho.shift a
  simp only [hAnalysis, hSynthesis]
  rw [hInterleave_split _ (by rw [mapRows_w, ew]; exact hw),
    mapRows_cancel _ _ _ (fun v => oned_roundtrip fho _ v (by rw [ew]; exact hw))]
  exact shiftDown_shiftUp _ _

/-! ### the levels

`dwtFull` and `dwtHo` peel levels off in the same way: split the array, go on with the low band,
append the high bands.  What is proved about them is proved once, about `levels`. -/

def levels {β : Type} (step : Arr → Arr × β) : Nat → Arr → Arr × List β
  | 0, a => (a, [])
  | d + 1, a => ((levels step d (step a).1).1, (levels step d (step a).1).2 ++ [(step a).2])

theorem dwtFull_eq_levels (fv fho : Filter) : ∀ d a, dwtFull fv fho d a = levels (vhAnalysis fv fho) d a
  | 0, _ => rfl
  | d + 1, a => by simp only [dwtFull, levels, dwtFull_eq_levels fv fho d]

theorem dwtHo_eq_levels (fho : Filter) : ∀ d a, dwtHo fho d a = levels (hAnalysis fho) d a
  | 0, _ => rfl
  | d + 1, a => by simp only [dwtHo, levels, dwtHo_eq_levels fho d]

section
variable {β : Type} (step : Arr → Arr × β)

theorem levels_length : ∀ d a, (levels step d a).2.length = d
  | 0, _ => rfl
  | d + 1, a => by simp only [levels, List.length_append, levels_length d, List.length_cons, List.length_nil]

/-- the levels are undone one by one; `P (d + 1) a` (say: `d + 1` levels can be split off `a`) has to make
    one level invertible on `a` and to hand `P d` on to its low band -/
theorem levels_roundtrip (synth : Arr → β → Arr) (P : Nat → Arr → Prop)
    (h : ∀ d a, P (d + 1) a → synth (step a).1 (step a).2 = a ∧ P d (step a).1) :
    ∀ d a, P d a → (levels step d a).2.foldl synth (levels step d a).1 = a
  | 0, _, _ => rfl
  | d + 1, a, hP => by
    simp only [levels, List.foldl_append, List.foldl_cons, List.foldl_nil]
    rw [levels_roundtrip synth P h d _ (h d a hP).2]
    exact (h d a hP).1

/-- a dimension `m` that every level divides by `c` -/
theorem levels_dc_dim (m : Arr → Nat) (c : Nat) (h : ∀ a, m (step a).1 = m a / c) :
    ∀ d a, m (levels step d a).1 = m a / c ^ d
  | 0, a => by rw [Nat.pow_zero, Nat.div_one]; rfl
  | d + 1, a => by
    show m (levels step d (step a).1).1 = _
    rw [levels_dc_dim m c h d, h, Nat.div_div_eq_div_mul, Nat.pow_succ, Nat.mul_comm]

/-- entry `k` holds the high bands split off the low band of depth `d - 1 - k` -/
theorem levels_getElem : ∀ d a k (hk : k < (levels step d a).2.length),
    (levels step d a).2[k] = (step (levels step (d - 1 - k) a).1).2
  | 0, _, _, hk => absurd hk (Nat.not_lt_zero _)
  | d + 1, a, k, hk => by
    have hl := levels_length step d (step a).1
    simp only [levels] at hk ⊢
    by_cases hkd : k < d
    · rw [List.getElem_append_left (by rw [hl]; exact hkd), levels_getElem d _ k,
        (by omega : d + 1 - 1 - k = (d - 1 - k) + 1)]
      rfl
    · obtain rfl : k = d := by rw [List.length_append, hl] at hk; exact Nat.le_antisymm (Nat.le_of_lt_succ hk) (Nat.le_of_not_lt hkd)
      rw [List.getElem_append_right (Nat.le_of_eq hl)]
      simp only [hl, Nat.sub_self, List.getElem_cons_zero, Nat.add_sub_cancel]
      rfl

end

/-! ### the two instances -/

def dims3 (b : Arr × Arr × Arr) (h w : Nat) : Prop :=
  b.1.h = h ∧ b.1.w = w ∧ b.2.1.h = h ∧ b.2.1.w = w ∧ b.2.2.h = h ∧ b.2.2.w = w

theorem vhAnalysis_dims (fv fho : Filter) (a : Arr) :
    (vhAnalysis fv fho a).1.h = a.h / 2 ∧ (vhAnalysis fv fho a).1.w = a.w / 2 ∧
    dims3 (vhAnalysis fv fho a).2 (a.h / 2) (a.w / 2) := by
  simp only [dims3, vhAnalysis, sub, mapCols_h, mapCols_w, mapRows_h, mapRows_w, shiftUp_h, shiftUp_w, and_self]

theorem hAnalysis_dims (fho : Filter) (a : Arr) :
    (hAnalysis fho a).1.h = a.h ∧ (hAnalysis fho a).1.w = a.w / 2 ∧
    (hAnalysis fho a).2.h = a.h ∧ (hAnalysis fho a).2.w = a.w / 2 := by
  simp only [hAnalysis, mapRows_h, mapRows_w, shiftUp_h, shiftUp_w, and_self]

theorem mod_pow_of_le (n a b : Nat) (hab : a ≤ b) (h : n % 2 ^ b = 0) : n % 2 ^ a = 0 :=
  Nat.mod_eq_zero_of_dvd (Nat.dvd_trans (Nat.pow_dvd_pow 2 hab) (Nat.dvd_of_mod_eq_zero h))

theorem pow_dvd_div (n a b : Nat) (h : n % 2 ^ (a + b) = 0) : (n / 2 ^ a) % 2 ^ b = 0 :=
  Nat.mod_eq_zero_of_dvd (Nat.dvd_div_of_mul_dvd (Nat.pow_add 2 a b ▸ Nat.dvd_of_mod_eq_zero h))

/-- a multiple of `2 ^ (d + 1)` is even and its half is a multiple of `2 ^ d` -/
theorem dvd_half (n d : Nat) (h : n % 2 ^ (d + 1) = 0) : n % 2 = 0 ∧ (n / 2) % 2 ^ d = 0 :=
  ⟨mod_pow_of_le n 1 (d + 1) (Nat.le_add_left 1 d) h, pow_dvd_div n 1 d (Nat.add_comm d 1 ▸ h)⟩

/-- the `d` two-dimensional levels -/
theorem full_roundtrip (fv fho : Filter) (d : Nat) (a : Arr) (hh : a.h % 2 ^ d = 0) (hw : a.w % 2 ^ d = 0) :
    (dwtFull fv fho d a).2.foldl (fun dc b => vhSynthesis fv fho dc b.1 b.2.1 b.2.2) (dwtFull fv fho d a).1 = a := by
  rw [dwtFull_eq_levels]
  refine levels_roundtrip _ _ (fun d a => a.h % 2 ^ d = 0 ∧ a.w % 2 ^ d = 0) (fun d a h => ?_) d a ⟨hh, hw⟩
  have dims := vhAnalysis_dims fv fho a
  have ⟨hh1, hh2⟩ := dvd_half a.h d h.1
  have ⟨hw1, hw2⟩ := dvd_half a.w d h.2
  exact ⟨vh_roundtrip fv fho a hh1 hw1, dims.1 ▸ hh2, dims.2.1 ▸ hw2⟩

/-- the `dho` horizontal-only levels -/
theorem ho_roundtrip (fho : Filter) (d : Nat) (a : Arr) (hw : a.w % 2 ^ d = 0) :
    (dwtHo fho d a).2.foldl (fun dc H => hSynthesis fho dc H) (dwtHo fho d a).1 = a := by
  rw [dwtHo_eq_levels]
  refine levels_roundtrip _ _ (fun d a => a.w % 2 ^ d = 0) (fun d a h => ?_) d a hw
  have ⟨hw1, hw2⟩ := dvd_half a.w d h
  exact ⟨h_roundtrip fho a hw1, (hAnalysis_dims fho a).2.1 ▸ hw2⟩

theorem dwtFull_dc_dims (fv fho : Filter) (d : Nat) (a : Arr) :
    (dwtFull fv fho d a).1.h = a.h / 2 ^ d ∧ (dwtFull fv fho d a).1.w = a.w / 2 ^ d := by
  rw [dwtFull_eq_levels]
  exact ⟨levels_dc_dim _ Arr.h 2 (fun a => (vhAnalysis_dims fv fho a).1) d a,
    levels_dc_dim _ Arr.w 2 (fun a => (vhAnalysis_dims fv fho a).2.1) d a⟩

theorem dwtHo_dc_dims (fho : Filter) (d : Nat) (a : Arr) :
    (dwtHo fho d a).1.h = a.h ∧ (dwtHo fho d a).1.w = a.w / 2 ^ d := by
  rw [dwtHo_eq_levels]
  refine ⟨?_, levels_dc_dim _ Arr.w 2 (fun a => (hAnalysis_dims fho a).2.1) d a⟩
  rw [levels_dc_dim _ Arr.h 1 (fun a => by rw [Nat.div_one]; exact (hAnalysis_dims fho a).1) d a, Nat.one_pow,
    Nat.div_one]

/-- **`idwt (dwt a) = a`** for every filter pair, every depth pair and every array whose
    dimensions are multiples of the transform scale -/
theorem idwt_dwt (fv fho : Filter) (dho d : Nat) (a : Arr)
    (hh : a.h % 2 ^ d = 0) (hw : a.w % 2 ^ (d + dho) = 0) :
    idwt fv fho (dwt fv fho dho d a) = a := by
  unfold idwt dwt
  simp only
  rw [ho_roundtrip fho dho _ (by rw [(dwtFull_dc_dims fv fho d a).2]; exact pow_dvd_div a.w d dho hw)]
  exact full_roundtrip fv fho d a hh (mod_pow_of_le a.w d _ (Nat.le_add_right d dho) hw)

/-! ### Shapes of the forward transform's subbands -/

theorem div_pow_succ (n k : Nat) : n / 2 ^ k / 2 = n / 2 ^ (k + 1) := by
  rw [Nat.div_div_eq_div_mul, Nat.pow_succ]

theorem dwtFull_shapes (fv fho : Filter) (d : Nat) (a : Arr) :
    (dwtFull fv fho d a).2.length = d ∧
    ∀ k (hk : k < (dwtFull fv fho d a).2.length),
      dims3 ((dwtFull fv fho d a).2[k]) (a.h / 2 ^ (d - k)) (a.w / 2 ^ (d - k)) := by
  rw [dwtFull_eq_levels]
  refine ⟨levels_length _ d a, fun k hk => ?_⟩
  have hkd : d - 1 - k + 1 = d - k := by rw [levels_length] at hk; omega
  have dims := (vhAnalysis_dims fv fho (levels (vhAnalysis fv fho) (d - 1 - k) a).1).2.2
  rw [levels_dc_dim _ Arr.h 2 (fun a => (vhAnalysis_dims fv fho a).1),
    levels_dc_dim _ Arr.w 2 (fun a => (vhAnalysis_dims fv fho a).2.1), div_pow_succ, div_pow_succ, hkd] at dims
  rw [levels_getElem]
  exact dims

theorem dwtHo_shapes (fho : Filter) (d : Nat) (a : Arr) :
    (dwtHo fho d a).2.length = d ∧
    ∀ k (hk : k < (dwtHo fho d a).2.length),
      ((dwtHo fho d a).2[k]).h = a.h ∧ ((dwtHo fho d a).2[k]).w = a.w / 2 ^ (d - k) := by
  refine ⟨by rw [dwtHo_eq_levels]; exact levels_length _ d a, fun k hk => ?_⟩
  have hkd : d - 1 - k + 1 = d - k := by rw [dwtHo_eq_levels, levels_length] at hk; omega
  have dims := (hAnalysis_dims fho (dwtHo fho (d - 1 - k) a).1).2.2
  rw [(dwtHo_dc_dims fho _ a).1, (dwtHo_dc_dims fho _ a).2, div_pow_succ, hkd] at dims
  simp only [dwtHo_eq_levels, levels_getElem] at dims ⊢
  exact dims

/-! ### Padding -/

/-- whatever the padded size asked for (an empty array has nothing to compare) -/
theorem padRemoval_padAddition (a : Arr) (ph pw : Nat) : (padRemoval (padAddition a ph pw) a.h a.w).Eq a := by
  refine ⟨Nat.min_eq_right (Nat.le_max_left _ _), Nat.min_eq_right (Nat.le_max_left _ _), fun y x hy hx => ?_⟩
  have hy : y ≤ a.h - 1 := Nat.le_sub_one_of_lt (Nat.lt_of_lt_of_le hy (Nat.min_le_right _ _))
  have hx : x ≤ a.w - 1 := Nat.le_sub_one_of_lt (Nat.lt_of_lt_of_le hx (Nat.min_le_right _ _))
  show a.f (min y (a.h - 1)) (min x (a.w - 1)) = a.f y x
  rw [Nat.min_eq_left hy, Nat.min_eq_left hx]

theorem pad_roundtrip (a : Arr) (ph pw : Nat) (hh : 1 ≤ a.h) (hw : 1 ≤ a.w) :
    (padRemoval (padAddition a ph pw) a.h a.w).Eq a :=
  padRemoval_padAddition a ph pw

end VC2.Proofs.Wavelet
