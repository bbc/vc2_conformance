/- Helper lemmas for C23 (raw picture file format and comparison).  Core Lean only. -/
import VC2.Model.FileFormat
import VC2.Prelude
namespace VC2.Proofs.FileFormat
open VC2 VC2.Model.FileFormat


theorem packSample_length (n v : Nat) : (packSample n v).length = n := by
  induction n generalizing v with
  | zero => rfl
  | succ n ih => simp [packSample, ih]

/-- one byte taken off a depth of at least 8 bits -/
theorem two_pow_sub_eight (d : Nat) (h : 8 ≤ d) : 2 ^ d = 2 ^ (d - 8) * 256 := by
  rw [← Nat.pow_add 2 (d - 8) 8, Nat.sub_add_cancel h]

/-- a sample of at most `d` bits written into `n ≥ ⌈d/8⌉` bytes is read back exactly -/
theorem unpack_pack : ∀ (n d v : Nat), v < 2 ^ d → d ≤ 8 * n → unpackSample d (packSample n v) = v
  | 0, d, v, hv, hd => by
    obtain rfl : d = 0 := by omega
    obtain rfl : v = 0 := by omega
    rfl
  | n + 1, d, v, hv, hd => by
    simp only [packSample, unpackSample]
    split
    · next h8 =>
      rw [unpack_pack n (d - 8) (v / 256) (by rw [two_pow_sub_eight d h8] at hv; omega) (by omega)]
      omega
    · next h8 =>
      have : 2 ^ d ≤ 2 ^ 8 := Nat.pow_le_pow_right (by decide) (by omega)
      rw [Nat.mod_eq_of_lt (by omega : v < 256), Nat.mod_eq_of_lt hv]

/-- the generated `intlog2` in terms of `Nat.log2` -/
theorem intlog2_toNat (n : Nat) (hn : 2 ≤ n) : (VC2.Gen.intlog2 (n : Int)).toNat = Nat.log2 (n - 1) + 1 := by
  unfold VC2.Gen.intlog2 bitLength
  have hne : ((n : Int) - 1) ≠ 0 := by omega
  have hab : ((n : Int) - 1).natAbs = n - 1 := by omega
  simp only [hne, if_false, hab, Int.toNat_natCast]

theorem two_pow_intlog2_ge (n : Nat) (hn : 1 ≤ n) : n ≤ 2 ^ (VC2.Gen.intlog2 (n : Int)).toNat := by
  by_cases h1 : n = 1
  · subst h1; decide
  · rw [intlog2_toNat n (by omega)]
    have := @Nat.lt_log2_self (n - 1)
    omega

theorem two_pow_intlog2_lt (n : Nat) (hn : 2 ≤ n) : 2 ^ (VC2.Gen.intlog2 (n : Int)).toNat < 2 * n := by
  rw [intlog2_toNat n hn, Nat.pow_succ]
  have := Nat.log2_self_le (n := n - 1) (by omega)
  omega

/-- the file format's bytes per sample hold the whole sample … -/
theorem bytesPerSample_holds (d : Nat) (hd : 1 ≤ d) : d ≤ 8 * bytesPerSample d := by
  unfold bytesPerSample
  have := two_pow_intlog2_ge ((d + 7) / 8) (by omega)
  omega

/-- … are a power of two, and the least one that does -/
theorem bytesPerSample_least (d : Nat) (hd : 9 ≤ d) : 8 * bytesPerSample d < 2 * (d + 7) := by
  unfold bytesPerSample
  have := two_pow_intlog2_lt ((d + 7) / 8) (by omega)
  omega

theorem bytesPerSample_small (d : Nat) (hd : 1 ≤ d) (h8 : d ≤ 8) : bytesPerSample d = 1 := by
  unfold bytesPerSample
  have : (d + 7) / 8 = 1 := by omega
  rw [this]; decide

theorem chunk_flatMap {α β : Type} (n : Nat) (f : α → List β) :
    ∀ (xs : List α) (rest : List β), (∀ x ∈ xs, (f x).length = n) →
      chunk n xs.length (xs.flatMap f ++ rest) = xs.map f
  | [], _, _ => rfl
  | x :: xs, rest, hf => by
    have hx := hf x List.mem_cons_self
    simp only [List.flatMap_cons, List.length_cons, chunk, List.map_cons, List.append_assoc]
    rw [List.take_left' hx, List.drop_left' hx, chunk_flatMap n f xs rest (fun y hy => hf y (List.mem_cons_of_mem _ hy))]

theorem flatMap_length_const {α β : Type} (n : Nat) (f : α → List β) :
    ∀ xs : List α, (∀ x ∈ xs, (f x).length = n) → (xs.flatMap f).length = xs.length * n
  | [], _ => by simp
  | x :: xs, hf => by
    rw [List.flatMap_cons, List.length_append, hf x List.mem_cons_self,
      flatMap_length_const n f xs (fun y hy => hf y (List.mem_cons_of_mem _ hy)), List.length_cons, Nat.succ_mul,
      Nat.add_comm]

/-- a picture component is well-formed for its dimensions: h rows of w samples below 2^depth -/
def PlaneOk (c : Dim) (rows : List (List Nat)) : Prop :=
  rows.length = c.h ∧ ∀ r ∈ rows, r.length = c.w ∧ ∀ v ∈ r, v < 2 ^ c.depth

/-- a well-formed row takes `w · bps` bytes -/
theorem row_length (c : Dim) (r : List Nat) (hr : r.length = c.w) :
    (r.flatMap (packSample c.bps)).length = c.w * c.bps := by
  rw [flatMap_length_const c.bps _ r (fun v _ => packSample_length _ v), hr]

theorem map_unpack_pack (c : Dim) (hd : 1 ≤ c.depth) (r : List Nat) (hr : ∀ v ∈ r, v < 2 ^ c.depth) :
    (r.map (packSample c.bps)).map (unpackSample c.depth) = r := by
  induction r with
  | nil => rfl
  | cons v vs ih =>
    simp only [List.map_cons]
    rw [unpack_pack c.bps c.depth v (hr v List.mem_cons_self) (bytesPerSample_holds c.depth hd),
      ih (fun x hx => hr x (List.mem_cons_of_mem _ hx))]

theorem readPlane_writePlane (c : Dim) (hd : 1 ≤ c.depth) (rows : List (List Nat)) (h : PlaneOk c rows)
    (rest : List Nat) : readPlane c (writePlane c rows ++ rest) = rows := by
  obtain ⟨hh, hrows⟩ := h
  unfold readPlane writePlane
  rw [← hh, chunk_flatMap _ _ rows rest (fun r hr => row_length c r (hrows r hr).1), List.map_map]
  conv => rhs; rw [← List.map_id rows]
  refine List.map_congr_left (fun r hr => ?_)
  have := chunk_flatMap c.bps (packSample c.bps) r [] (fun v _ => packSample_length _ v)
  rw [List.append_nil, (hrows r hr).1] at this
  simp only [Function.comp, this, id]
  exact map_unpack_pack c hd r (hrows r hr).2

theorem writePlane_length (c : Dim) (rows : List (List Nat)) (h : PlaneOk c rows) :
    (writePlane c rows).length = c.size := by
  unfold writePlane Dim.size
  rw [flatMap_length_const _ _ rows (fun r hr => row_length c r (h.2 r hr).1), h.1, Nat.mul_assoc]

/-- the picture has one well-formed plane per component -/
def PictureOk : List Dim → List (List (List Nat)) → Prop
  | [], [] => True
  | c :: cs, p :: ps => 1 ≤ c.depth ∧ PlaneOk c p ∧ PictureOk cs ps
  | _, _ => False

theorem readPicture_writePicture : ∀ (cs : List Dim) (ps : List (List (List Nat))),
    PictureOk cs ps → readPicture cs (writePicture cs ps) = ps := by
  intro cs
  induction cs with
  | nil => intro ps h; cases ps with
    | nil => rfl
    | cons p ps => exact h.elim
  | cons c cs ih =>
    intro ps h
    cases ps with
    | nil => exact h.elim
    | cons p ps =>
      obtain ⟨hd, hp, hrest⟩ := h
      simp only [writePicture, readPicture]
      have hl := writePlane_length c p hp
      rw [List.take_left' hl, List.drop_left' hl, ih ps hrest]
      have := readPlane_writePlane c hd p hp []
      rw [List.append_nil] at this
      rw [this]

/-! ### comparison -/

theorem mul_self_nonneg' (d : Int) : 0 ≤ d * d := by
  rcases Int.le_total 0 d with h | h
  · exact Int.mul_nonneg h h
  · have := Int.mul_nonneg (Int.neg_nonneg_of_nonpos h) (Int.neg_nonneg_of_nonpos h)
    rwa [Int.neg_mul_neg] at this

theorem sum_sq_eq_zero : ∀ (ds : List Int), (ds.map (fun d => d * d)).sum = 0 ↔ ∀ d ∈ ds, d = 0 := by
  intro ds
  induction ds with
  | nil => simp
  | cons d ds ih =>
    simp only [List.map_cons, List.sum_cons, List.mem_cons, forall_eq_or_imp]
    have h1 : 0 ≤ d * d := mul_self_nonneg' d  
    have h2 : 0 ≤ (ds.map (fun d => d * d)).sum := by
      clear ih
      induction ds with
      | nil => simp
      | cons e es ihe => simp only [List.map_cons, List.sum_cons]; have := mul_self_nonneg' e; omega
    constructor
    · intro h
      have hd : d * d = 0 := by omega
      have hs : (ds.map (fun d => d * d)).sum = 0 := by omega
      exact ⟨by rcases Int.mul_eq_zero.1 hd with h | h <;> exact h, ih.1 hs⟩
    · rintro ⟨hd, hs⟩
      rw [hd, ih.2 hs]; rfl

theorem planeIdentical_iff (ds : List Int) : planeIdentical ds = true ↔ ∀ d ∈ ds, d = 0 := by
  unfold planeIdentical
  rw [beq_iff_eq]
  exact sum_sq_eq_zero ds

theorem countNonzero_zero_iff (ds : List Int) : countNonzero ds = 0 ↔ ∀ d ∈ ds, d = 0 := by
  unfold countNonzero
  rw [List.length_eq_zero_iff, List.filter_eq_nil_iff]
  simp

theorem deltas_zero_iff : ∀ (a b : List Int), a.length = b.length →
    ((∀ d ∈ deltas a b, d = 0) ↔ a = b) := by
  intro a
  induction a with
  | nil => intro b h; cases b with
    | nil => simp [deltas]
    | cons _ _ => simp at h
  | cons x xs ih =>
    intro b h
    cases b with
    | nil => simp at h
    | cons y ys =>
      simp only [List.length_cons, Nat.add_right_cancel_iff] at h
      simp only [deltas, List.zipWith_cons_cons, List.mem_cons, forall_eq_or_imp, List.cons.injEq]
      have := ih ys h
      unfold deltas at this
      rw [this]
      constructor
      · rintro ⟨h1, h2⟩; exact ⟨by omega, h2⟩
      · rintro ⟨h1, h2⟩; exact ⟨by omega, h2⟩

/-- the differing-pixel count is the number of positions whose samples differ -/
theorem countNonzero_deltas : ∀ (a b : List Int),
    countNonzero (deltas a b) = ((a.zip b).filter (fun p => p.1 ≠ p.2)).length := by
  intro a
  induction a with
  | nil => intro b; simp [deltas, countNonzero]
  | cons x xs ih =>
    intro b
    cases b with
    | nil => simp [deltas, countNonzero]
    | cons y ys =>
      have := ih ys
      unfold countNonzero deltas at this ⊢
      simp only [List.zipWith_cons_cons, List.zip_cons_cons, List.filter_cons]
      by_cases hxy : x = y
      · subst hxy; simp; simpa using this
      · have h1 : y - x ≠ 0 := by omega
        simp [h1, hxy]; simpa using this

end VC2.Proofs.FileFormat
