/-
  Lemmas for C01/C02/C10 on the stream-structure model.
-/
import VC2.Model.Stream
import VC2.Props.C18
namespace VC2.Proofs.Stream
open VC2 VC2.Model.SymRe VC2.Model.Stream VC2.Proofs.SymRe VC2.Props.C18

def IsCrash : Verdict → Prop
  | .crash _ => True
  | _ => False

theorem find_map_mem (l : List (Nat × String)) (c : Nat) (name : String)
    (h : (l.find? (fun p => p.1 == c)).map (·.2) = some name) : (c, name) ∈ l := by
  cases hf : l.find? (fun p => p.1 == c) with
  | none => rw [hf] at h; cases h
  | some p =>
    rw [hf] at h
    have hm := List.mem_of_find?_eq_some hf
    have hp := List.find?_some hf
    simp only [Option.map_some, Option.some.injEq] at h
    simp only [beq_iff_eq] at hp
    obtain ⟨a, b⟩ := p
    simp only at h hp
    subst h; subst hp; exact hm

theorem table_seqHdr : ∀ p ∈ VC2.Gen.parseCodeNames, p.2 = "sequence_header" → p.1 = 0 := by decide +kernel

theorem codeName_seqHdr (c : Nat) (h : codeName c = "sequence_header") : c = 0 := by
  unfold codeName at h
  cases hf : (VC2.Gen.parseCodeNames.find? (fun p => p.1 == c)).map (·.2) with
  | none => rw [hf] at h; simp at h
  | some name =>
    rw [hf] at h
    simp only [Option.getD_some] at h
    subst h
    exact table_seqHdr _ (find_map_mem _ c _ hf) rfl

theorem lang_cat_inv {Sy : Type} {m : String → Sy → Prop} {a b : Ast} {w : List Sy}
    (h : Lang m (.cat a b) w) : ∃ u v, w = u ++ v ∧ Lang m a u ∧ Lang m b v := by
  generalize hr : Ast.cat a b = r at h
  cases h with
  | cat h1 h2 => injection hr with e1 e2; subst e1; subst e2; exact ⟨_, _, rfl, h1, h2⟩
  | _ => cases hr

theorem lang_sym_inv {Sy : Type} {m : String → Sy → Prop} {s : String} {w : List Sy}
    (h : Lang m (.sym s) w) : ∃ a, w = [a] ∧ m s a := by
  generalize hr : Ast.sym s = r at h
  cases h with
  | sym hm => injection hr with e1; subst e1; exact ⟨_, rfl, hm⟩
  | _ => cases hr

/-- the generic pattern `sequence_header .* end_of_sequence` admits only a sequence header first -/
theorem generic_first (name : String) (g : Matcher)
    (h : (Matcher.init false genericPattern).matchSymbol name = some g) : name = "sequence_header" := by
  have hrun : ((Matcher.init false genericPattern).run [name]).isSome = true := by
    simp [Matcher.run, h]
  obtain ⟨v, hv⟩ := (accepts_iff_prefix genericPattern [name]).1 hrun
  unfold genericPattern at hv
  obtain ⟨u, w, heq, hu, _⟩ := lang_cat_inv hv
  obtain ⟨x, hx, hm⟩ := lang_sym_inv hu
  subst hx
  simp only [reals, List.map_cons, List.map_nil, List.singleton_append, List.cons_append,
    List.nil_append, List.cons.injEq] at heq
  obtain ⟨hx, _⟩ := heq
  subst hx
  simp only [mrel, labelMatches, Bool.or_eq_true, beq_iff_eq] at hm
  rcases hm with hm | hm
  · exact hm.symm
  · exact absurd hm (by decide)


/-! ### the `Except Err` monad: when a computation succeeds, and when it cannot crash -/

theorem bind_ok {α β : Type} (m : M α) (f : α → M β) (y : β) :
    (m >>= f) = .ok y ↔ ∃ x, m = .ok x ∧ f x = .ok y := by
  cases m <;> simp [bind, Except.bind]

theorem guardRej_ok (c : Bool) (cls : String) (x : Unit) : guardRej c cls = .ok x ↔ c = false := by
  cases c <;> simp [guardRej, rej, pure, Except.pure]

theorem getOrCrash_ok {α : Type} (x : Option α) (w : String) (v : α) :
    getOrCrash x w = .ok v ↔ x = some v := by
  cases x <;> simp [getOrCrash, crash, pure, Except.pure]

theorem matchOrRej_ok (m : Matcher) (name cls : String) (g : Matcher) :
    matchOrRej m name cls = .ok g ↔ m.matchSymbol name = some g := by
  unfold matchOrRej rej; cases m.matchSymbol name <;> simp [pure, Except.pure]

theorem pure_ok {α : Type} (x y : α) : (pure x : M α) = .ok y ↔ x = y := by simp [pure, Except.pure]
theorem rej_ok {α : Type} (cls : String) (y : α) : (rej cls : M α) = .ok y ↔ False := by simp [rej]
theorem crash_ok {α : Type} (w : String) (y : α) : (crash w : M α) = .ok y ↔ False := by simp [crash]
theorem crash_err {α : Type} (w : String) (e : Err) : (crash w : M α) = .error e ↔ e = .crash w := by
  unfold crash; simp; exact eq_comm

/-- `m` does not end in a KeyError / TypeError / …: it succeeds or raises a conformance error -/
def NoCrash {α : Type} (m : M α) : Prop := ∀ w, m ≠ .error (.crash w)

theorem noCrash_bind {α β : Type} (m : M α) (f : α → M β) :
    NoCrash (m >>= f) ↔ NoCrash m ∧ ∀ x, m = .ok x → NoCrash (f x) := by
  cases m <;> simp [NoCrash, bind, Except.bind]

theorem noCrash_pure {α : Type} (x : α) : NoCrash (pure x : M α) := fun _ h => by cases h
theorem noCrash_rej {α : Type} (cls : String) : NoCrash (rej cls : M α) := fun _ h => by cases h
theorem noCrash_guardRej (c : Bool) (cls : String) : NoCrash (guardRej c cls) := by
  cases c <;> simp [guardRej, noCrash_pure, noCrash_rej]
theorem noCrash_matchOrRej (m : Matcher) (name cls : String) : NoCrash (matchOrRej m name cls) := by
  unfold matchOrRej; cases m.matchSymbol name <;> simp [noCrash_pure, noCrash_rej]
theorem noCrash_getOrCrash {α : Type} (x : Option α) (w : String) :
    NoCrash (getOrCrash x w) ↔ x.isSome = true := by
  cases x <;> simp [getOrCrash, NoCrash, crash, pure, Except.pure]
theorem noCrash_ite {α : Type} (c : Prop) [Decidable c] (a b : M α) :
    NoCrash (if c then a else b) ↔ (c → NoCrash a) ∧ (¬ c → NoCrash b) := by
  split <;> simp [*]

theorem toVerdict_ne_ok (e : Err) : e.toVerdict ≠ .ok := by cases e <;> simp [Err.toVerdict]

theorem NoCrash.toVerdict {α : Type} {m : M α} (h : NoCrash m) {e : Err} (he : m = .error e) :
    ¬ IsCrash e.toVerdict := by
  cases e with
  | reject c => exact id
  | crash w => exact fun _ => h w he

/-! ### each model function, exactly: when it succeeds and what it leaves behind

The conditions come in the order of the checks in the code. -/

theorem checkLastNext_ok (s : VState) (x : Unit) : checkLastNext s = .ok x ↔
    (s.nextOff = none ∨ s.nextOff = some 0 ∨
          ∃ last, s.lastPI = some last ∧ s.nextOff = some (s.pos - last)) := by
  unfold checkLastNext
  cases s.nextOff with
  | none => simp [pure_ok]
  | some n =>
    by_cases h0 : n = 0
    · simp [h0, pure_ok]
    · simp [h0, bind_ok, getOrCrash_ok, guardRej_ok]

theorem checkLastNext_noCrash (s : VState) (h : s.nextOff.isSome = true → s.lastPI.isSome = true) :
    NoCrash (checkLastNext s) := by
  unfold checkLastNext
  cases hn : s.nextOff with
  | none => exact noCrash_pure _
  | some n =>
    simp only [noCrash_ite, noCrash_bind, noCrash_getOrCrash, noCrash_guardRej, noCrash_pure, h (by rw [hn]; rfl)]
    simp

theorem levelStep_none (name : String) : levelStep none name = .ok none := rfl

theorem levelStep_some (lm : Matcher) (name : String) (lvl : Option Matcher) :
    levelStep (some lm) name = .ok lvl ↔ ∃ l, lm.matchSymbol name = some l ∧ lvl = some l := by
  simp only [levelStep, bind_ok, matchOrRej_ok, pure_ok]
  exact exists_congr fun l => and_congr_right' eq_comm

theorem levelStep_ok (lvl : Option Matcher) (name : String) :
    (∃ l, levelStep lvl name = .ok l) ↔ (∀ lm, lvl = some lm → (lm.matchSymbol name).isSome = true) := by
  cases lvl with
  | none => simp [levelStep_none]
  | some lm =>
    simp only [levelStep_some, Option.some.injEq, forall_eq', Option.isSome_iff_exists]
    exact ⟨fun ⟨_, l, hl, _⟩ => ⟨l, hl⟩, fun ⟨l, hl⟩ => ⟨_, l, hl, rfl⟩⟩

theorem levelStep_noCrash (lvl : Option Matcher) (name : String) : NoCrash (levelStep lvl name) := by
  cases lvl <;> simp only [levelStep, noCrash_bind, noCrash_matchOrRej, noCrash_pure, implies_true, and_self]

theorem parseInfo_ok_iff (s : VState) (u : DUnit) (s1 : VState) :
    parseInfo s u = .ok s1 ↔
      (s.nextOff = none ∨ s.nextOff = some 0 ∨
          ∃ last, s.lastPI = some last ∧ s.nextOff = some (s.pos - last)) ∧
      ∃ g, s.generic.matchSymbol (codeName u.code) = some g ∧
      ∃ lvl, levelStep s.level (codeName u.code) = .ok lvl ∧
      (∀ p, s.profile = some p → profileAllows p u.code = true) ∧
      ¬ (((s.majorVersion.map (fun (v : Nat) => (v : Int))).getD VC2.Gen.MINIMUM_MAJOR_VERSION)
            < VC2.Gen.parse_code_version_implication u.code) ∧
      (u.code = 0x10 → u.next = 0) ∧
      (u.next = 0 → u.code = 0x10 ∨ isPicture u.code = true ∨ isFragment u.code = true) ∧
      (u.next = 0 ∨ 13 ≤ u.next) ∧
      (s.lastPI = none → u.prev = 0) ∧
      (∀ last, s.lastPI = some last → u.prev = s.pos - last) ∧
      s1 = { s with generic := g, level := lvl,
                    expectedVersion := some (pymax (s.expectedVersion.getD VC2.Gen.MINIMUM_MAJOR_VERSION)
                      (VC2.Gen.parse_code_version_implication u.code)),
                    nextOff := some u.next, lastPI := some s.pos } := by
  unfold parseInfo
  simp only [bind_ok, guardRej_ok, pure_ok, matchOrRej_ok, checkLastNext_ok, exists_const]
  refine and_congr_right' (exists_congr fun g => and_congr_right' (exists_congr fun lvl => and_congr_right' ?_))
  refine and_congr ?_ (and_congr ?_ (and_congr ?_ (and_congr ?_ (and_congr ?_ (and_congr ?_ (and_congr ?_ eq_comm))))))
  · cases s.profile <;> simp
  · simp
  · simp
  · grind
  · rw [decide_eq_false_iff_not]; omega
  · cases s.lastPI <;> simp
  · cases s.lastPI <;> simp

/-- what a successful `parse_info` leaves behind -/
theorem parseInfo_ok (s s1 : VState) (u : DUnit) (h : parseInfo s u = .ok s1) :
    ∃ g lvl ev, s.generic.matchSymbol (codeName u.code) = some g ∧
      s1 = { s with generic := g, level := lvl, expectedVersion := ev, nextOff := some u.next,
                    lastPI := some s.pos } := by
  obtain ⟨_, g, hg, lvl, _, _, _, _, _, _, _, _, hs1⟩ := (parseInfo_ok_iff s u s1).1 h
  exact ⟨g, lvl, _, hg, hs1⟩

theorem parseInfo_noCrash (s : VState) (u : DUnit) (h : s.nextOff.isSome = true → s.lastPI.isSome = true) :
    NoCrash (parseInfo s u) := by
  unfold parseInfo
  simp only [noCrash_bind, noCrash_guardRej, noCrash_matchOrRej, noCrash_pure, levelStep_noCrash,
    checkLastNext_noCrash s h, implies_true, and_self]

theorem pictureNumberCheck_ok_iff (s : VState) (n : Nat) (s1 : VState) :
    pictureNumberCheck s n = .ok s1 ↔
      (∀ last, s.lastPicNum = some last → n = (last + 1) % 4294967296) ∧
      ∃ pcm, s.pcm = some pcm ∧ ¬ (pcm = 1 ∧ s.numPics % 2 = 0 ∧ n % 2 ≠ 0) ∧
      s1 = { s with lastPicNum := some n, numPics := s.numPics + 1 } := by
  unfold pictureNumberCheck
  simp only [bind_ok, guardRej_ok, getOrCrash_ok, pure_ok, exists_const]
  refine and_congr ?_ (exists_congr fun pcm => and_congr_right' (and_congr ?_ eq_comm))
  · cases s.lastPicNum <;> simp
  · simp

theorem pictureNumberCheck_noCrash (s : VState) (n : Nat) (h : s.pcm.isSome = true) :
    NoCrash (pictureNumberCheck s n) := by
  unfold pictureNumberCheck
  simp only [noCrash_bind, noCrash_guardRej, noCrash_getOrCrash, noCrash_pure, h, implies_true, and_self]

theorem levelInit_some (cfg : Config) (lm : Matcher) : levelInit cfg (some lm) = .ok lm := rfl

theorem levelInit_none (cfg : Config) (l : Matcher) : levelInit cfg none = .ok l ↔
    (Matcher.init false cfg.levelPattern).matchSymbol "sequence_header" = some l := getOrCrash_ok _ _ _

theorem headerPayload_ok_iff (cfg : Config) (s : VState) (u : DUnit) (s1 : VState) :
    headerPayload cfg s u = .ok s1 ↔
      ¬ ((u.majorVersion : Int) < VC2.Gen.profile_version_implication u.profile) ∧
      ∃ lvl, levelInit cfg s.level = .ok lvl ∧
      (∀ h, s.lastHdr = some h → h = u.hdrId) ∧
      s1 = { s with majorVersion := some u.majorVersion, profile := some u.profile,
                    expectedVersion := some (pymax (s.expectedVersion.getD VC2.Gen.MINIMUM_MAJOR_VERSION)
                      (VC2.Gen.profile_version_implication u.profile)),
                    level := some lvl, pcm := some u.pcm, lastHdr := some u.hdrId } := by
  unfold headerPayload
  simp only [bind_ok, guardRej_ok, pure_ok, exists_const]
  refine and_congr ?_ (exists_congr fun lvl => and_congr_right' (and_congr ?_ eq_comm))
  · simp
  · cases s.lastHdr <;> simp

theorem headerPayload_noCrash (cfg : Config) (s : VState) (u : DUnit)
    (hlevel : (Matcher.init false cfg.levelPattern).matchSymbol "sequence_header" ≠ none) :
    NoCrash (headerPayload cfg s u) := by
  have : NoCrash (levelInit cfg s.level) := by
    unfold levelInit
    cases s.level with
    | some lm => exact noCrash_pure _
    | none => exact (noCrash_getOrCrash _ _).2 (Option.isSome_iff_ne_none.2 hlevel)
  unfold headerPayload
  simp only [noCrash_bind, noCrash_guardRej, noCrash_pure, this, implies_true, and_self]

theorem dataFragment_ok_iff (s : VState) (u : DUnit) (s1 : VState) :
    dataFragment s u = .ok s1 ↔
      s.fragRemaining ≠ 0 ∧ s.lastPicNum = some u.picNum ∧ u.sliceCount ≤ s.fragRemaining ∧
      ∃ received sx, s.fragReceived = some received ∧ s.slicesX = some sx ∧ sx ≠ 0 ∧
        u.fx = received % sx ∧ u.fy = received / sx ∧
        s1 = { s with fragReceived := some (received + u.sliceCount),
                      fragRemaining := s.fragRemaining - u.sliceCount,
                      decoded := if decide (received + u.sliceCount = sx * (s.slicesY.getD 0))
                                 then s.decoded ++ [u.picNum] else s.decoded } := by
  unfold dataFragment
  -- every `if` becomes a proposition; the rejecting and crashing branches become `False`
  simp only [bind_ok, guardRej_ok, getOrCrash_ok, pure_ok, rej_ok, crash_ok, apply_ite (· = Except.ok s1),
    if_false_left, and_false, exists_false, exists_const, beq_eq_false_iff_ne, ne_eq, Bool.or_eq_true, bne_iff_ne,
    not_or, Decidable.not_not, gt_iff_lt, Nat.not_lt, bne_eq_false_iff_eq, and_assoc]
  constructor
  · rintro ⟨h0, _, hl, rfl, hle, r, hr, sx, hx, hx0, hfx, hfy, rfl⟩
    exact ⟨h0, hl, hle, r, sx, hr, hx, hx0, hfx, hfy, rfl⟩
  · rintro ⟨h0, hl, hle, r, sx, hr, hx, hx0, hfx, hfy, rfl⟩
    exact ⟨h0, _, hl, rfl, hle, r, hr, sx, hx, hx0, hfx, hfy, rfl⟩

/-- while a fragmented picture is in progress, every key `fragment_data` reads is defined
    (the last clause of `Inv`) -/
def FragDefined (s : VState) : Prop :=
  s.fragRemaining ≠ 0 →
    s.lastPicNum.isSome = true ∧ s.initFragOffset.isSome = true ∧ s.fragReceived.isSome = true ∧
    ∃ sx, s.slicesX = some sx ∧ sx ≠ 0

theorem dataFragment_noCrash (s : VState) (u : DUnit) (h : FragDefined s) : NoCrash (dataFragment s u) := by
  unfold dataFragment
  simp only [noCrash_bind, noCrash_guardRej, guardRej_ok, true_and]
  intro _ h0
  obtain ⟨h1, h2, h3, sx, h4, h5⟩ := h (by simpa using h0)
  simp [noCrash_bind, noCrash_ite, noCrash_getOrCrash, noCrash_pure, noCrash_rej, getOrCrash_ok,
    h1, h2, h3, h4, h5]


theorem endOfSequence_noCrash (s : VState) (h1 : s.pcm.isSome = true) (h2 : s.majorVersion.isSome = true) :
    NoCrash (endOfSequence s) := by
  unfold endOfSequence
  simp only [noCrash_bind, noCrash_guardRej, noCrash_getOrCrash, h1, h2, implies_true, and_self]

/-! `payload`, kind by kind -/

theorem payload_seqHdr (cfg : Config) (s : VState) {u : DUnit} (h : u.kind = .seqHdr) :
    payload cfg s u = headerPayload cfg s u := by
  unfold payload; rw [h]

theorem payload_plain (cfg : Config) (s : VState) {u : DUnit}
    (h : u.kind = .aux ∨ u.kind = .padding ∨ u.kind = .eos) : payload cfg s u = .ok s := by
  unfold payload; rcases h with h | h | h <;> rw [h] <;> rfl

theorem payload_dataFragment (cfg : Config) (s : VState) {u : DUnit} (h : u.kind = .fragment)
    (h0 : u.sliceCount ≠ 0) : payload cfg s u = dataFragment s u := by
  unfold payload; rw [h]; exact if_neg h0

theorem payload_picture_ok_iff (cfg : Config) (s s2 : VState) {u : DUnit} (h : u.kind = .picture) :
    payload cfg s u = .ok s2 ↔
      s.fragRemaining = 0 ∧ ∃ s1, pictureNumberCheck s u.picNum = .ok s1 ∧
      s2 = { s1 with slicesX := some cfg.slicesX, slicesY := some cfg.slicesY,
                     decoded := s1.decoded ++ [u.picNum] } := by
  unfold payload; rw [h]
  simp only [bind_ok, guardRej_ok, pure_ok, exists_const, bne_eq_false_iff_eq]
  exact and_congr_right' (exists_congr fun s1 => and_congr_right' eq_comm)

theorem payload_fragment0_ok_iff (cfg : Config) (s s2 : VState) {u : DUnit} (h : u.kind = .fragment)
    (h0 : u.sliceCount = 0) :
    payload cfg s u = .ok s2 ↔
      s.fragRemaining = 0 ∧ ∃ s1, pictureNumberCheck s u.picNum = .ok s1 ∧
      s2 = { s1 with initFragOffset := some s1.pos, slicesX := some cfg.slicesX, slicesY := some cfg.slicesY,
                     fragReceived := some 0, fragRemaining := cfg.slicesX * cfg.slicesY } := by
  unfold payload; rw [h]
  simp only [if_pos h0, bind_ok, guardRej_ok, pure_ok, exists_const, bne_eq_false_iff_eq]
  exact and_congr_right' (exists_congr fun s1 => and_congr_right' eq_comm)

theorem payload_noCrash (cfg : Config) (s : VState) (u : DUnit)
    (hlevel : (Matcher.init false cfg.levelPattern).matchSymbol "sequence_header" ≠ none)
    (hpcm : u.kind ≠ .seqHdr → s.pcm.isSome = true)
    (hfrag : FragDefined s) : NoCrash (payload cfg s u) := by
  unfold payload
  cases hk : u.kind with
  | seqHdr => exact headerPayload_noCrash cfg s u hlevel
  | picture =>
    simp only [noCrash_bind, noCrash_guardRej, noCrash_pure,
      pictureNumberCheck_noCrash s _ (hpcm (by simp [hk])), implies_true, and_self]
  | fragment =>
    simp only [noCrash_ite, noCrash_bind, noCrash_guardRej, noCrash_pure,
      pictureNumberCheck_noCrash s _ (hpcm (by simp [hk])), dataFragment_noCrash s u hfrag, implies_true, and_self]
  | aux => exact noCrash_pure _
  | padding => exact noCrash_pure _
  | eos => exact noCrash_pure _

/-- the payload of a unit touches neither the position nor the parse_info bookkeeping -/
theorem payload_lastPI (cfg : Config) (s1 s2 : VState) (u : DUnit) (h : payload cfg s1 u = .ok s2) :
    s2.lastPI = s1.lastPI ∧ s2.pos = s1.pos := by
  cases hk : u.kind with
  | seqHdr =>
    rw [payload_seqHdr cfg s1 hk, headerPayload_ok_iff] at h
    obtain ⟨_, _, _, _, rfl⟩ := h; exact ⟨rfl, rfl⟩
  | picture =>
    obtain ⟨_, _, h1, rfl⟩ := (payload_picture_ok_iff cfg s1 s2 hk).1 h
    obtain ⟨_, _, _, _, rfl⟩ := (pictureNumberCheck_ok_iff _ _ _).1 h1; exact ⟨rfl, rfl⟩
  | fragment =>
    by_cases h0 : u.sliceCount = 0
    · obtain ⟨_, _, h1, rfl⟩ := (payload_fragment0_ok_iff cfg s1 s2 hk h0).1 h
      obtain ⟨_, _, _, _, rfl⟩ := (pictureNumberCheck_ok_iff _ _ _).1 h1; exact ⟨rfl, rfl⟩
    · rw [payload_dataFragment cfg s1 hk h0, dataFragment_ok_iff] at h
      obtain ⟨_, _, _, _, _, _, _, _, _, _, rfl⟩ := h; exact ⟨rfl, rfl⟩
  | aux => cases (payload_plain cfg s1 (Or.inl hk)).symm.trans h; exact ⟨rfl, rfl⟩
  | padding => cases (payload_plain cfg s1 (Or.inr (Or.inl hk))).symm.trans h; exact ⟨rfl, rfl⟩
  | eos => cases (payload_plain cfg s1 (Or.inr (Or.inr hk))).symm.trans h; exact ⟨rfl, rfl⟩

/-! ### the definedness invariant -/

/-- a unit with the sequence-header parse code is dispatched as a sequence header -/
def KindOk (u : DUnit) : Prop := u.code = 0 → u.kind = .seqHdr

structure Inv (s : VState) : Prop where
  nl : s.nextOff.isSome = true → s.lastPI.isSome = true
  fresh : s.lastPI = none → s.generic = Matcher.init false genericPattern
  started : s.lastPI.isSome = true → s.pcm.isSome = true ∧ s.majorVersion.isSome = true
  frag : s.fragRemaining ≠ 0 →
    s.lastPicNum.isSome = true ∧ s.initFragOffset.isSome = true ∧ s.fragReceived.isSome = true ∧
    ∃ sx, s.slicesX = some sx ∧ sx ≠ 0

theorem inv_fresh (p : Nat) (d : List Nat) : Inv (VState.fresh p d) :=
  ⟨fun h => by simp [VState.fresh] at h, fun _ => rfl, fun h => by simp [VState.fresh] at h,
   fun h => by simp [VState.fresh] at h⟩

/-- inside a sequence only the last two clauses say anything -/
theorem inv_inside {s : VState} (hl : s.lastPI.isSome = true)
    (hst : s.pcm.isSome = true ∧ s.majorVersion.isSome = true)
    (hfrag : FragDefined s) : Inv s :=
  ⟨fun _ => hl, fun h => absurd h (Option.isSome_iff_ne_none.1 hl), fun _ => hst, hfrag⟩

theorem first_is_header (s s1 : VState) (u : DUnit) (hi : Inv s) (hl : s.lastPI = none)
    (hp : parseInfo s u = .ok s1) (hk : KindOk u) : u.kind = .seqHdr := by
  obtain ⟨g, _, _, hg, _⟩ := parseInfo_ok s s1 u hp
  rw [hi.fresh hl] at hg
  exact hk (codeName_seqHdr _ (generic_first _ g hg))

theorem payload_inv (cfg : Config) {s1 s2 : VState} {u : DUnit} (p : Nat) (hl : s1.lastPI.isSome = true)
    (hst : u.kind ≠ .seqHdr → s1.pcm.isSome = true ∧ s1.majorVersion.isSome = true)
    (hfrag : FragDefined s1) (h : payload cfg s1 u = .ok s2) : Inv { s2 with pos := p } := by
  cases hk : u.kind with
  | seqHdr =>
    rw [payload_seqHdr cfg s1 hk, headerPayload_ok_iff] at h
    obtain ⟨_, _, _, _, rfl⟩ := h
    exact inv_inside hl ⟨rfl, rfl⟩ hfrag
  | picture =>
    obtain ⟨h0, _, h1, rfl⟩ := (payload_picture_ok_iff cfg s1 s2 hk).1 h
    obtain ⟨_, _, _, _, rfl⟩ := (pictureNumberCheck_ok_iff _ _ _).1 h1
    exact inv_inside hl (hst (by simp [hk])) fun hne => absurd h0 hne
  | fragment =>
    by_cases h0 : u.sliceCount = 0
    · obtain ⟨_, _, h1, rfl⟩ := (payload_fragment0_ok_iff cfg s1 s2 hk h0).1 h
      obtain ⟨_, _, _, _, rfl⟩ := (pictureNumberCheck_ok_iff _ _ _).1 h1
      exact inv_inside hl (hst (by simp [hk])) fun hne =>
        ⟨rfl, rfl, rfl, cfg.slicesX, rfl, fun hx => hne (by simp [hx])⟩
    · rw [payload_dataFragment cfg s1 hk h0, dataFragment_ok_iff] at h
      obtain ⟨hne, _, _, _, _, _, _, _, _, _, rfl⟩ := h
      obtain ⟨f1, f2, _, f4⟩ := hfrag hne
      exact inv_inside hl (hst (by simp [hk])) fun _ => ⟨f1, f2, rfl, f4⟩
  | aux =>
    cases (payload_plain cfg s1 (Or.inl hk)).symm.trans h
    exact inv_inside hl (hst (by simp [hk])) hfrag
  | padding =>
    cases (payload_plain cfg s1 (Or.inr (Or.inl hk))).symm.trans h
    exact inv_inside hl (hst (by simp [hk])) hfrag
  | eos =>
    cases (payload_plain cfg s1 (Or.inr (Or.inr hk))).symm.trans h
    exact inv_inside hl (hst (by simp [hk])) hfrag

/-! ### one data unit at a time -/

/-- what `run` does with one data unit: the state in which it meets the next one, or its final result -/
def step (cfg : Config) (s : VState) (u : DUnit) : Except (Verdict × List Nat) VState :=
  match parseInfo s u with
  | .error v => .error (v.toVerdict, s.decoded)
  | .ok s1 =>
    if u.kind = .eos then
      match endOfSequence s1 with
      | .error v => .error (v.toVerdict, s1.decoded)
      | .ok () => .ok (VState.fresh (s.pos + u.len) s1.decoded)
    else if (u.kind = .aux ∨ u.kind = .padding) ∧ u.next ≠ u.len then .error (.desync, s1.decoded)
    else
      match payload cfg s1 u with
      | .error v => .error (v.toVerdict, s1.decoded)
      | .ok s2 => .ok { s2 with pos := s.pos + u.len }

theorem run_step (cfg : Config) (s : VState) (u : DUnit) (rest : List DUnit) :
    run cfg s (u :: rest) =
      match step cfg s u with
      | .error r => r
      | .ok s' => run cfg s' rest := by
  conv => lhs; unfold run
  unfold step
  cases parseInfo s u with
  | error v => rfl
  | ok s1 =>
    simp only
    split
    · cases endOfSequence s1 <;> rfl
    · split
      · rfl
      · cases payload cfg s1 u <;> rfl

theorem run_nil (cfg : Config) (s : VState) :
    run cfg s [] =
      if s.lastPI.isNone then (.ok, s.decoded)
      else match checkLastNext s with
        | .error v => (v.toVerdict, s.decoded)
        | .ok () => (.reject "UnexpectedEndOfStream", s.decoded) := by
  conv => lhs; unfold run
  split
  · rfl
  · cases checkLastNext s <;> rfl

theorem run_ok_nil (cfg : Config) (s : VState) : (run cfg s []).1 = .ok ↔ s.lastPI = none := by
  rw [run_nil]
  cases s.lastPI with
  | none => simp
  | some _ => cases checkLastNext s <;> simp [toVerdict_ne_ok]

theorem run_nil_decoded (cfg : Config) (s : VState) : (run cfg s []).2 = s.decoded := by
  rw [run_nil]
  split
  · rfl
  · cases checkLastNext s <;> rfl

theorem step_ok_iff (cfg : Config) (s s' : VState) (u : DUnit) :
    step cfg s u = .ok s' ↔ ∃ s1, parseInfo s u = .ok s1 ∧
      if u.kind = .eos then endOfSequence s1 = .ok () ∧ s' = VState.fresh (s.pos + u.len) s1.decoded
      else ¬ ((u.kind = .aux ∨ u.kind = .padding) ∧ u.next ≠ u.len) ∧
        ∃ s2, payload cfg s1 u = .ok s2 ∧ s' = { s2 with pos := s.pos + u.len } := by
  unfold step
  cases parseInfo s u with
  | error v => simp
  | ok s1 =>
    simp only [Except.ok.injEq, exists_eq_left']
    split
    · cases endOfSequence s1 <;> simp [eq_comm (a := s')]
    · split
      · simp [*]
      · cases payload cfg s1 u <;> simp [*, eq_comm (a := s')]

theorem step_error_ne_ok (cfg : Config) (s : VState) (u : DUnit) (r : Verdict × List Nat)
    (h : step cfg s u = .error r) : r.1 ≠ .ok := by
  unfold step at h
  split at h
  · cases h; exact toVerdict_ne_ok _
  · split at h
    · split at h
      · cases h; exact toVerdict_ne_ok _
      · cases h
    · split at h
      · cases h; exact Verdict.noConfusion
      · split at h
        · cases h; exact toVerdict_ne_ok _
        · cases h

theorem run_ok_step (cfg : Config) (s : VState) (u : DUnit) (rest : List DUnit) :
    (run cfg s (u :: rest)).1 = .ok ↔ ∃ s', step cfg s u = .ok s' ∧ (run cfg s' rest).1 = .ok := by
  rw [run_step]
  cases hs : step cfg s u with
  | error r => simpa using step_error_ne_ok cfg s u r hs
  | ok s' => simp

theorem run_ok_cons (cfg : Config) (s : VState) (u : DUnit) (rest : List DUnit) :
    (run cfg s (u :: rest)).1 = .ok ↔
      ∃ s1, parseInfo s u = .ok s1 ∧
        if u.kind = .eos then
          endOfSequence s1 = .ok () ∧ (run cfg (VState.fresh (s.pos + u.len) s1.decoded) rest).1 = .ok
        else
          ¬ ((u.kind = .aux ∨ u.kind = .padding) ∧ u.next ≠ u.len) ∧
          ∃ s2, payload cfg s1 u = .ok s2 ∧ (run cfg { s2 with pos := s.pos + u.len } rest).1 = .ok := by
  simp only [run_ok_step, step_ok_iff]
  constructor
  · rintro ⟨s', ⟨s1, hp, h⟩, hr⟩
    refine ⟨s1, hp, ?_⟩
    split at h
    · rw [if_pos ‹_›]; obtain ⟨he, rfl⟩ := h; exact ⟨he, hr⟩
    · rw [if_neg ‹_›]; obtain ⟨hd, s2, hpl, rfl⟩ := h; exact ⟨hd, s2, hpl, hr⟩
  · rintro ⟨s1, hp, h⟩
    split at h
    · exact ⟨_, ⟨s1, hp, by rw [if_pos ‹_›]; exact ⟨h.1, rfl⟩⟩, h.2⟩
    · obtain ⟨hd, s2, hpl, hr⟩ := h
      exact ⟨_, ⟨s1, hp, by rw [if_neg ‹_›]; exact ⟨hd, s2, hpl, rfl⟩⟩, hr⟩

/-- after a unit the validator is either inside a sequence or, after an end of sequence, in the fresh state -/
theorem step_ok_boundary (cfg : Config) (s s' : VState) (u : DUnit) (h : step cfg s u = .ok s') :
    s'.pos = s.pos + u.len ∧
      ((u.kind = .eos ∧ s' = VState.fresh s'.pos s'.decoded) ∨ s'.lastPI = some s.pos) := by
  obtain ⟨s1, hp, h⟩ := (step_ok_iff cfg s s' u).1 h
  obtain ⟨_, _, _, _, hs1⟩ := parseInfo_ok s s1 u hp
  split at h
  · rename_i heos; obtain ⟨_, rfl⟩ := h; exact ⟨rfl, Or.inl ⟨heos, rfl⟩⟩
  · obtain ⟨_, s2, hpl, rfl⟩ := h
    refine ⟨rfl, Or.inr ?_⟩
    show s2.lastPI = _
    rw [(payload_lastPI cfg s1 s2 u hpl).1, hs1]

/-- a unit met in a defined state does not crash and leaves a defined state -/
theorem step_inv (cfg : Config)
    (hlevel : (Matcher.init false cfg.levelPattern).matchSymbol "sequence_header" ≠ none)
    {s : VState} {u : DUnit} (hi : Inv s) (hk : KindOk u) :
    match step cfg s u with
    | .error r => ¬ IsCrash r.1
    | .ok s' => Inv s' := by
  unfold step
  cases hp : parseInfo s u with
  | error e => exact (parseInfo_noCrash s u hi.nl).toVerdict hp
  | ok s1 =>
    -- what holds between the parse_info and the payload
    obtain ⟨_, _, _, _, hs1⟩ := parseInfo_ok s s1 u hp
    have hl1 : s1.lastPI.isSome = true := by rw [hs1]; rfl
    have hfrag : FragDefined s1 := by rw [hs1]; exact hi.frag
    have hst : u.kind ≠ .seqHdr → s1.pcm.isSome = true ∧ s1.majorVersion.isSome = true := by
      intro hne
      cases hl : s.lastPI with
      | none => exact absurd (first_is_header s s1 u hi hl hp hk) hne
      | some _ => rw [hs1]; exact hi.started (by rw [hl]; rfl)
    simp only
    by_cases heos : u.kind = .eos
    · have hst := hst (by simp [heos])
      rw [if_pos heos]
      cases he : endOfSequence s1 with
      | error e => exact (endOfSequence_noCrash s1 hst.1 hst.2).toVerdict he
      | ok _ => exact inv_fresh _ _
    · rw [if_neg heos]
      by_cases hd : (u.kind = .aux ∨ u.kind = .padding) ∧ u.next ≠ u.len
      · rw [if_pos hd]; exact id
      · rw [if_neg hd]
        cases hpl : payload cfg s1 u with
        | error e => exact (payload_noCrash cfg s1 u hlevel (fun h => (hst h).1) hfrag).toVerdict hpl
        | ok s2 => exact payload_inv cfg _ hl1 hst hfrag hpl

/-- **the validator model never fails with a non-conformance exception** -/
theorem run_no_crash (cfg : Config)
    (hlevel : (Matcher.init false cfg.levelPattern).matchSymbol "sequence_header" ≠ none) :
    ∀ (us : List DUnit) (s : VState), (∀ u ∈ us, KindOk u) → Inv s → ¬ IsCrash (run cfg s us).1 := by
  intro us
  induction us with
  | nil =>
    intro s _ hi
    rw [run_nil]
    split
    · exact id
    · cases hc : checkLastNext s with
      | ok _ => exact id
      | error v => exact (checkLastNext_noCrash s hi.nl).toVerdict hc
  | cons u rest ih =>
    intro s hk hi
    have h := step_inv cfg hlevel hi (hk u List.mem_cons_self)
    rw [run_step]
    cases hs : step cfg s u with
    | error r => rw [hs] at h; exact h
    | ok s' => rw [hs] at h; exact ih s' (fun x hx => hk x (List.mem_cons_of_mem _ hx)) h

/-! ### compositionality (C10) -/

def totalLen (us : List DUnit) : Nat := (us.map (·.len)).sum

/-- at a sequence boundary the state is exactly the fresh state -/
def AtBoundary (s : VState) : Prop := s.lastPI = none → s = VState.fresh s.pos s.decoded

/-- if a prefix is accepted (it ends at a sequence boundary), the rest is validated from a fresh
    state: sequences are validated independently -/
theorem run_append_ok (cfg : Config) : ∀ (us1 : List DUnit) (s : VState) (us2 : List DUnit),
    AtBoundary s → (run cfg s us1).1 = .ok →
    run cfg s (us1 ++ us2) = run cfg (VState.fresh (s.pos + totalLen us1) (run cfg s us1).2) us2 := by
  intro us1
  induction us1 with
  | nil =>
    intro s us2 hb h
    rw [run_nil_decoded, List.nil_append, totalLen, List.map_nil, List.sum_nil, Nat.add_zero,
      ← hb ((run_ok_nil cfg s).1 h)]
  | cons u rest ih =>
    intro s us2 hb h
    rw [List.cons_append, run_step]
    rw [run_step] at h ⊢
    cases hs : step cfg s u with
    | error r => rw [hs] at h; exact absurd h (step_error_ne_ok cfg s u r hs)
    | ok s' =>
      rw [hs] at h
      obtain ⟨hpos, hbd⟩ := step_ok_boundary cfg s s' u hs
      have hb' : AtBoundary s' := by
        rcases hbd with ⟨_, hf⟩ | hl
        · exact fun _ => hf
        · intro h0; rw [hl] at h0; cases h0
      simp only [ih s' us2 hb' h, hpos, totalLen, List.map_cons, List.sum_cons, Nat.add_assoc]

/-- an error raised while reading a unit is not affected by what follows -/
theorem run_append_err (cfg : Config) : ∀ (us1 : List DUnit) (s : VState) (us2 : List DUnit) (v : Verdict),
    (run cfg s us1).1 = v → v ≠ .ok → v ≠ .reject "UnexpectedEndOfStream" →
    run cfg s (us1 ++ us2) = run cfg s us1 := by
  intro us1
  induction us1 with
  | nil =>
    intro s us2 v h h1 h2
    cases us2 with
    | nil => rfl
    | cons u rest =>
      -- the error is the next-offset check at the top of `parse_info`: the next unit meets it too
      rw [run_nil] at h ⊢
      split at h
      · exact absurd h.symm h1
      · rename_i hl
        cases hc : checkLastNext s with
        | ok _ => rw [hc] at h; exact absurd h.symm h2
        | error e =>
          have hs : step cfg s u = .error (e.toVerdict, s.decoded) := by unfold step parseInfo; rw [hc]; rfl
          rw [List.nil_append, run_step, hs, if_neg hl]
  | cons u rest ih =>
    intro s us2 v h h1 h2
    rw [List.cons_append, run_step, run_step]
    rw [run_step] at h
    cases hs : step cfg s u with
    | error r => rfl
    | ok s' => rw [hs] at h; exact ih s' us2 v h h1 h2

end VC2.Proofs.Stream
