/-
  Helper lemmas for C13 (slice geometry).  Core Lean only.
-/
import VC2.Gen.Kernels
namespace VC2.Proofs.Slices
open VC2 VC2.Gen

/-! ### Abstract partition `f k = W * k / n` -/

/-- slice boundary as a pure function -/
def bound (W n k : Int) : Int := (W * k) / n

theorem bound_zero (W n : Int) : bound W n 0 = 0 := by simp [bound]

theorem bound_full (W n : Int) (hn : 0 < n) : bound W n n = W := by
  unfold bound; exact Int.mul_ediv_cancel W (by omega)

theorem bound_mono (W n a b : Int) (hW : 0 ≤ W) (hn : 0 < n) (hab : a ≤ b) :
    bound W n a ≤ bound W n b := by
  unfold bound
  exact Int.ediv_le_ediv hn (Int.mul_le_mul_of_nonneg_left hab hW)

theorem bound_nonneg (W n a : Int) (hW : 0 ≤ W) (hn : 0 < n) (ha : 0 ≤ a) : 0 ≤ bound W n a := by
  have := bound_mono W n 0 a hW hn ha
  rw [bound_zero] at this; exact this

/-- existence: every coordinate lies in some slice -/
theorem exists_slice_nat (f : Nat → Int) (x : Int) :
    ∀ n : Nat, f 0 ≤ x → x < f n → ∃ k, k < n ∧ f k ≤ x ∧ x < f (k + 1) := by
  intro n
  induction n with
  | zero => intro h0 hn; omega
  | succ m ih =>
    intro h0 hn
    by_cases h : x < f m
    · obtain ⟨k, hk, h1, h2⟩ := ih h0 h
      exact ⟨k, by omega, h1, h2⟩
    · exact ⟨m, by omega, by omega, hn⟩

theorem exists_slice (W n x : Int) (hn : 0 < n) (hx0 : 0 ≤ x) (hxW : x < W) :
    ∃ k, 0 ≤ k ∧ k < n ∧ bound W n k ≤ x ∧ x < bound W n (k + 1) := by
  have h := exists_slice_nat (fun k => bound W n k) x n.toNat
    (by simp [bound_zero]; exact hx0)
    (by
      have : ((n.toNat : Nat) : Int) = n := by omega
      simp only [this, bound_full W n hn]; exact hxW)
  obtain ⟨k, hk, h1, h2⟩ := h
  refine ⟨k, by omega, by omega, h1, ?_⟩
  have : ((k + 1 : Nat) : Int) = (k : Int) + 1 := by omega
  simpa [this] using h2

/-- uniqueness: slices are disjoint -/
theorem unique_slice (W n x k k' : Int) (hW : 0 ≤ W) (hn : 0 < n)
    (h1 : bound W n k ≤ x) (h2 : x < bound W n (k + 1))
    (h1' : bound W n k' ≤ x) (h2' : x < bound W n (k' + 1)) : k = k' := by
  -- a slice that starts at or before `x` is not after one that ends after `x`
  have key : ∀ a b, bound W n a ≤ x → x < bound W n (b + 1) → a ≤ b := fun a b ha hb =>
    Int.not_lt.1 fun hlt =>
      Int.lt_irrefl x (Int.lt_of_lt_of_le hb (Int.le_trans (bound_mono W n (b + 1) a hW hn hlt) ha))
  exact Int.le_antisymm (key k k' h1 h2') (key k' k h1' h2)

/-- Slices with left edges `L k = bound W n k` and right edges `R k = bound W n (k + 1)` tile `[0, W)`:
    the first starts at 0, each ends where the next begins, the last ends at `W`, none is negative. -/
theorem tiling (L R : Int → Int) (W n : Int) (hL : ∀ k, L k = bound W n k)
    (hR : ∀ k, R k = bound W n (k + 1)) (hW : 0 ≤ W) (hn : 0 < n) :
    L 0 = 0 ∧ (∀ k, R k = L (k + 1)) ∧ R (n - 1) = W ∧ (∀ k, 0 ≤ k → 0 ≤ L k ∧ L k ≤ R k) := by
  refine ⟨by rw [hL, bound_zero], fun k => by rw [hR, hL], ?_, fun k hk => ?_⟩
  · rw [hR, Int.sub_add_cancel, bound_full _ _ hn]
  · rw [hL, hR]; exact ⟨bound_nonneg _ _ _ hW hn hk, bound_mono _ _ _ _ hW hn (by omega)⟩

/-- … and every coordinate of `[0, W)` lies in exactly one of them. -/
theorem partition (L R : Int → Int) (W n x : Int) (hL : ∀ k, L k = bound W n k)
    (hR : ∀ k, R k = bound W n (k + 1)) (hW : 0 ≤ W) (hn : 0 < n) (hx0 : 0 ≤ x) (hx1 : x < W) :
    (∃ k, 0 ≤ k ∧ k < n ∧ L k ≤ x ∧ x < R k) ∧
    (∀ k k', L k ≤ x → x < R k → L k' ≤ x → x < R k' → k = k') := by
  simp only [hL, hR]
  exact ⟨exists_slice W n x hn hx0 hx1, fun k k' => unique_slice W n x k k' hW hn⟩

theorem bound_of_dvd (W n k : Int) (hd : W % n = 0) : bound W n k = W / n * k :=
  Int.mul_ediv_assoc' k (Int.dvd_of_emod_eq_zero hd)

/-- if `n ∣ W` every slice has the same extent `W / n` -/
theorem equal_extents_of_dvd (W n k : Int) (hd : W % n = 0) :
    bound W n (k + 1) - bound W n k = W / n := by
  rw [bound_of_dvd _ _ _ hd, bound_of_dvd _ _ _ hd, Int.mul_add, Int.mul_one]; omega

/-- conversely, if every slice has the extent of slice 0 then `n ∣ W` -/
theorem dvd_of_equal_extents (W n : Int) (hn : 0 < n)
    (h : ∀ k, 0 ≤ k → k < n → bound W n (k + 1) - bound W n k = bound W n 1 - bound W n 0) :
    W % n = 0 := by
  have key : ∀ m : Nat, (m : Int) ≤ n → bound W n m = m * bound W n 1 := by
    intro m
    induction m with
    | zero => intro _; simp [bound_zero]
    | succ j ih =>
      intro hj
      have hjn : (j : Int) < n := by omega
      have := h j (by omega) hjn
      have ihj := ih (by omega)
      rw [bound_zero] at this
      have e : ((j + 1 : Nat) : Int) = (j : Int) + 1 := by omega
      rw [e, Int.add_mul]; omega
  have hfull := key n.toNat (by omega)
  have e : ((n.toNat : Nat) : Int) = n := by omega
  rw [e, bound_full W n hn] at hfull
  rw [hfull]; exact Int.mul_emod_right _ _

/-- all `n` slices have the extent of slice 0 exactly when `n ∣ W` -/
theorem equal_extents_iff (L R : Int → Int) (W n : Int) (hL : ∀ k, L k = bound W n k)
    (hR : ∀ k, R k = bound W n (k + 1)) (hn : 0 < n) :
    (∀ k, 0 ≤ k → k < n → R k - L k = R 0 - L 0) ↔ W % n = 0 := by
  simp only [hL, hR, Int.zero_add]
  exact ⟨dvd_of_equal_extents W n hn, fun hd k _ _ => by
    rw [equal_extents_of_dvd _ _ k hd, ← equal_extents_of_dvd _ _ 0 hd, Int.zero_add]⟩

/-! ### Telescoping sum of low-delay slice sizes -/

def sumTo (g : Nat → Int) : Nat → Int
  | 0 => 0
  | n + 1 => sumTo g n + g n

theorem telescope (f : Nat → Int) (n : Nat) :
    sumTo (fun k => f (k + 1) - f k) n = f n - f 0 := by
  induction n with
  | zero => simp [sumTo]
  | succ m ih => simp [sumTo, ih]; omega

/-! ### Powers of two -/

theorem shl_one (n : Int) : shl 1 n = 2 ^ n.toNat := Int.one_mul _

theorem shl_one_add (a b : Int) (ha : 0 ≤ a) (hb : 0 ≤ b) :
    shl 1 (a + b) = shl 1 a * shl 1 b := by
  rw [shl_one, shl_one, shl_one, Int.toNat_add ha hb, Int.pow_add]

end VC2.Proofs.Slices

namespace VC2.Proofs.Slices
open VC2 VC2.Gen

/-! ### The generated geometry functions in closed form -/

def CompOk (c : String) : Prop := c = "Y" ∨ c = "C1" ∨ c = "C2"

def compW (st : St) (c : String) : Int := if c = "Y" then st.luma_width else st.color_diff_width
def compH (st : St) (c : String) : Int := if c = "Y" then st.luma_height else st.color_diff_height

/-- total transform depth in the horizontal direction -/
def depthW (st : St) : Int := st.dwt_depth_ho + st.dwt_depth

/-- `w` rounded up to a multiple of `2^D` (the padded picture size) -/
def padded (w D : Int) : Int := shl 1 D * ((w + shl 1 D - 1) / shl 1 D)

/-- exponent of the divisor applied at `level`, horizontally / vertically -/
def wexp (st : St) (level : Int) : Int :=
  if level = 0 then depthW st else depthW st - level + 1
def hexp (st : St) (level : Int) : Int :=
  if level = 0 then st.dwt_depth else if level ≤ st.dwt_depth_ho then st.dwt_depth
  else depthW st - level + 1

structure GeomOk (st : St) : Prop where
  d : 0 ≤ st.dwt_depth
  dho : 0 ≤ st.dwt_depth_ho
  sx : 1 ≤ st.slices_x
  sy : 1 ≤ st.slices_y

/-- the generated code spells the last branch of `if a ≤ b … else …` as `elif a > b` -/
theorem ite_le_lt {α : Type} (a b : Int) (x y z : α) :
    (if a ≤ b then x else if b < a then y else z) = if a ≤ b then x else y := by
  by_cases h : a ≤ b
  · rw [if_pos h, if_pos h]
  · rw [if_neg h, if_neg h, if_pos (by omega)]

theorem subband_width_eq (st : St) (level : Int) (c : String) (hc : CompOk c) :
    subband_width st level c = padded (compW st c) (depthW st) / shl 1 (wexp st level) := by
  have hpos := shl_one_pos (depthW st)
  have hpos2 := shl_one_pos (depthW st - level + 1)
  unfold subband_width padded compW wexp depthW at *
  by_cases h0 : level = 0
  · rcases hc with h | h | h <;> subst h <;> simp [h0, pydiv_pos _ _ hpos]
  · rcases hc with h | h | h <;> subst h <;>
      simp [h0, ite_le_lt, pydiv_pos _ _ hpos, pydiv_pos _ _ hpos2]

theorem subband_height_eq (st : St) (level : Int) (c : String) (hc : CompOk c) :
    subband_height st level c = padded (compH st c) st.dwt_depth / shl 1 (hexp st level) := by
  have hpos := shl_one_pos st.dwt_depth
  have hpos2 := shl_one_pos (depthW st - level + 1)
  unfold subband_height padded compH hexp depthW at *
  by_cases h0 : level = 0
  · rcases hc with h | h | h <;> subst h <;> simp [h0, pydiv_pos _ _ hpos]
  · by_cases h1 : level ≤ st.dwt_depth_ho
    · rcases hc with h | h | h <;> subst h <;> simp [h0, h1, pydiv_pos _ _ hpos]
    · rcases hc with h | h | h <;> subst h <;>
        simp [h0, h1, Int.not_le.1 h1, pydiv_pos _ _ hpos, pydiv_pos _ _ hpos2]

theorem subband_ok (st : St) (level : Int) (c : String) (hc : CompOk c) (g : GeomOk st)
    (hl0 : 0 ≤ level) (hl : level ≤ depthW st) :
    subband_width_ok st level c = true ∧ subband_height_ok st level c = true := by
  have hd := g.d; have hdho := g.dho
  have e1 : 0 ≤ st.dwt_depth_ho + st.dwt_depth := by omega
  have e2 : 0 ≤ st.dwt_depth_ho + st.dwt_depth - level + 1 := by unfold depthW at hl; omega
  have nz : ∀ n, shl 1 n ≠ 0 := fun n => Int.ne_of_gt (shl_one_pos n)
  unfold subband_width_ok subband_height_ok
  -- what `simp` leaves is that the three `level` branches of the code are exhaustive
  rcases hc with h | h | h <;> subst h <;> simp [e1, e2, nz, hd] <;> omega

end VC2.Proofs.Slices
