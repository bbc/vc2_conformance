/- The 1-bits at the end of a code word of the C20 bit codec are at most `virtBits k`: what a value
   may take from beyond the end of a bounded block (C21/C06 with the bounded-block semantics). -/
import VC2.Proofs.ExpGolombCanon
namespace VC2.Proofs.Serdes
open VC2 VC2.Model.Serdes VC2.Model.BitIO VC2.Proofs.BitIO

theorem nbitsOf_length (v : Nat) : ∀ n, (nbitsOf v n).length = n
  | 0 => rfl
  | n + 1 => by simp [nbitsOf, nbitsOf_length v n]

theorem encPairs_all_true (m : Nat) : ∀ j, (encPairs m j ++ [true]).all id = true → j = 0
  | 0, _ => rfl
  | j + 1, h => by simp [encPairs] at h

theorem encPairs_ones (m : Nat) : ∀ (j n : Nat), ((encPairs m j ++ [true]).drop n).all id = true →
    ((encPairs m j ++ [true]).drop n).length ≤ 2
  | 0, n, _ => by simp [encPairs]; omega
  | j + 1, 0, h => by simp [encPairs] at h
  | j + 1, 1, h => by
    simp only [encPairs, List.cons_append, List.drop_succ_cons, List.drop_zero, List.all_cons, Bool.and_eq_true] at h
    have := encPairs_all_true m j h.2
    subst this
    simp [encPairs]
  | j + 1, n + 2, h => by
    simp only [encPairs, List.cons_append, List.drop_succ_cons] at h ⊢
    exact encPairs_ones m j n h

theorem encodeUint_ones (v n : Nat) (h : ((encodeUint v).drop n).all id = true) : ((encodeUint v).drop n).length ≤ 2 :=
  encPairs_ones _ _ n h

theorem encodeSint_ones (v : Int) (n : Nat) (h : ((encodeSint v).drop n).all id = true) :
    ((encodeSint v).drop n).length ≤ 3 := by
  unfold encodeSint at h ⊢
  rw [List.drop_append] at h ⊢
  rw [all_id_append] at h
  have h1 := encodeUint_ones v.natAbs n h.1
  simp only [List.length_append]
  have h2 : (List.drop (n - (encodeUint v.natAbs).length) (if v = 0 then [] else [decide (v < 0)])).length ≤ 1 := by
    split <;> simp <;> omega
  omega

theorem writeBits_out (bs : List Bool) : ({} : Writer).writeBits bs = .ok { out := bs } := by
  have := writeBits_free bs ({} : Writer) rfl
  simpa using this

theorem writeNbits_out (n : Nat) (x : Int) (w' : Writer) (h : ({} : Writer).writeNbits (n : Int) x = .ok w') :
    w'.out.length = n := by
  unfold Writer.writeNbits at h
  split at h
  · cases h
  · rw [writeBits_out] at h
    cases h
    simp [nbitsOf_length]

theorem writeBitarray_out (n : Nat) (l : List Bool) (w' : Writer) (h : ({} : Writer).writeBitarray (n : Int) l = .ok w')
    (hl : l.length = n) : w'.out.length = n := by
  unfold Writer.writeBitarray at h
  split at h
  · cases h
  · rw [writeBits_out] at h
    cases h
    simp [hl]

theorem bitCodec_onesBound : OnesBound bitCodec := by
  intro k v b n he hall
  have hle : (b.drop n).length ≤ b.length := by simp
  simp only [bitCodec] at he ⊢
  unfold encBits at he
  -- one case per line of `encBits`; the last is a value of another kind than the field, which is not written
  split at he <;> simp only [virtBits] at he ⊢
  · cases he; simp
  · split at he <;> cases he
    have := writeNbits_out _ _ _ ‹_›; omega
  · split at he <;> cases he
    have := writeNbits_out (8 * _) _ _ ‹_›; omega
  · split at he
    · split at he <;> cases he
      have := writeBitarray_out _ _ _ ‹_› ‹_›; omega
    · cases he
  · split at he
    · split at he <;> cases he
      have := writeBitarray_out (8 * _) _ _ ‹_› ‹_›; omega
    · cases he
  · rename_i x
    by_cases hx : x < 0
    · simp [Writer.writeUint, hx] at he
    · rw [show x = ((x.toNat : Nat) : Int) by omega, writeUint_fresh] at he
      cases he
      exact encodeUint_ones _ n hall
  · rw [writeSint_fresh] at he
    cases he
    exact encodeSint_ones _ n hall
  · cases he

end VC2.Proofs.Serdes
