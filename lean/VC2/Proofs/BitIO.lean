/-
  Lemmas about the BitIO model (C20).  Core Lean only.

  Outside a bounded block a reader is a parser of the list `all.drop pos`: `readBit_none` says so for
  one bit, and every primitive gets one equation `read ⟨all, pos, none⟩ = .ok (x, ⟨all, pos + |code x|, none⟩)`
  whenever `all.drop pos` starts with the code of `x`.  The writer outside a block appends the code.
  The two readers are compared through one relation-generic lemma per loop (`agree_*`), used at
  `Sim` (inside a block, bounded reads) and at `Sim0` (outside, raw reads).
-/
import VC2.Model.BitIO
import VC2.Gen.Kernels
namespace VC2.Proofs.BitIO
open VC2 VC2.Gen VC2.Model.BitIO

/-! ### Reading outside a bounded block -/

theorem drop_add_of_eq_append {l a s : List Bool} {p : Nat} (h : l.drop p = a ++ s) :
    l.drop (p + a.length) = s := by
  rw [← List.drop_drop, h, List.drop_left]

theorem drop_succ_of_eq_cons {l s : List Bool} {b : Bool} {p : Nat} (h : l.drop p = b :: s) :
    l.drop (p + 1) = s :=
  drop_add_of_eq_append (a := [b]) h

theorem readBit_none (all : List Bool) (pos : Nat) :
    Reader.readBit ⟨all, pos, none⟩ = match all.drop pos with
      | [] => .error .eof
      | b :: _ => .ok (b, ⟨all, pos + 1, none⟩) := by
  unfold Reader.readBit Reader.rawBit
  simp only [← List.head?_drop]
  cases all.drop pos <;> rfl

theorem readBit_free {all : List Bool} {pos : Nat} {b : Bool} {suf : List Bool}
    (h : all.drop pos = b :: suf) : Reader.readBit ⟨all, pos, none⟩ = .ok (b, ⟨all, pos + 1, none⟩) := by
  rw [readBit_none, h]

theorem readBits_free (bs : List Bool) : ∀ {all : List Bool} {pos : Nat} {suf : List Bool},
    all.drop pos = bs ++ suf →
    Reader.readBits bs.length ⟨all, pos, none⟩ = .ok (bs, ⟨all, pos + bs.length, none⟩) := by
  induction bs with
  | nil => intros; rfl
  | cons b bs ih =>
    intro all pos suf h
    simp only [List.length_cons, Reader.readBits, readBit_free h,
      ih (drop_succ_of_eq_cons h), bind, Except.bind, pure, Except.pure]
    rw [Nat.add_assoc, Nat.add_comm 1]

theorem bit_eq (m i : Nat) : (if m.testBit i then 1 else 0) = m / 2 ^ i % 2 := by
  rw [Nat.testBit_eq_decide_div_mod_eq]
  rcases Nat.mod_two_eq_zero_or_one (m / 2 ^ i) with h | h <;> rw [h] <;> rfl

/-- one step of either most-significant-first loop, in both directions: shifting bit `b` into the
    accumulator `acc` gives the bits of `m` from `j` up iff `acc` holds those from `j + 1` up and
    `b` is bit `j` -/
theorem shift_step_iff (m j acc : Nat) (b : Bool) :
    m / 2 ^ j = acc * 2 + (if b then 1 else 0) ↔ m / 2 ^ (j + 1) = acc ∧ m.testBit j = b := by
  rw [Nat.pow_succ, ← Nat.div_div_eq_div_mul, Nat.testBit_eq_decide_div_mod_eq]
  cases b <;> simp <;> omega

/-- the fixed-width loop run over the `n` low bits of `v`, starting from the bits of `v` above
    them, ends with `v` itself -/
theorem readNbitsLoop_free (v : Nat) : ∀ (n : Nat) {all : List Bool} {pos : Nat} {suf : List Bool},
    all.drop pos = nbitsOf v n ++ suf →
    Reader.readNbitsLoop n ⟨all, pos, none⟩ (v / 2 ^ n) = .ok (v, ⟨all, pos + n, none⟩) := by
  intro n
  induction n with
  | zero => intros; simp [Reader.readNbitsLoop]
  | succ i ih =>
    intro all pos suf h
    simp only [nbitsOf, List.cons_append] at h
    simp only [Reader.readNbitsLoop, readBit_free h, bind, Except.bind,
      ← (shift_step_iff v i _ _).2 ⟨rfl, rfl⟩, ih (drop_succ_of_eq_cons h)]
    rw [Nat.add_assoc, Nat.add_comm 1]

theorem readNbits_free (k n : Nat) (hn : n < 2 ^ k) {all : List Bool} {pos : Nat} {suf : List Bool}
    (h : all.drop pos = nbitsOf n k ++ suf) :
    Reader.readNbits ⟨all, pos, none⟩ k = .ok (n, ⟨all, pos + k, none⟩) := by
  rw [Reader.readNbits, Int.toNat_natCast, ← Nat.div_eq_of_lt hn]
  exact readNbitsLoop_free n k h

/-- the decoding loop run over the pairs of `m` below bit `j`, starting from the bits of
    `m` above `j`, ends with `m` itself -/
theorem readUintLoop_free (m : Nat) : ∀ (j : Nat) {all : List Bool} {pos : Nat} {suf : List Bool} {fuel : Nat},
    all.drop pos = encPairs m j ++ true :: suf → j < fuel →
    Reader.readUintLoop fuel ⟨all, pos, none⟩ (m / 2 ^ j) = .ok (m, ⟨all, pos + (2 * j + 1), none⟩) := by
  intro j
  induction j with
  | zero =>
    intro all pos suf fuel h hf
    match fuel, hf with
    | f + 1, _ =>
      simp [Reader.readUintLoop, readBit_free (by simpa [encPairs] using h), bind, Except.bind, pure, Except.pure]
  | succ i ih =>
    intro all pos suf fuel h hf
    match fuel, hf with
    | f + 1, hf =>
      simp only [encPairs, List.cons_append] at h
      have h1 := drop_succ_of_eq_cons h
      have hs := (shift_step_iff m i _ _).2 ⟨rfl, rfl⟩
      simp only [Reader.readUintLoop, readBit_free h, readBit_free h1, bind, Except.bind,
        Bool.false_eq_true, if_false, ← hs, ih (drop_succ_of_eq_cons h1) (Nat.lt_of_succ_lt_succ hf)]
      rw [show pos + 1 + 1 + (2 * i + 1) = pos + (2 * (i + 1) + 1) by omega]

/-- the leading 1 of `v` is its bit `j` exactly when `j = log2 v` -/
theorem div_pow_eq_one_iff (v j : Nat) : v / 2 ^ j = 1 ↔ v ≠ 0 ∧ Nat.log2 v = j := by
  have hpos := Nat.two_pow_pos j
  by_cases hv : v = 0
  · simp [hv]
  · rw [Nat.log2_eq_iff hv, Nat.pow_succ, Nat.mul_comm, ← Nat.one_le_div_iff hpos,
      ← Nat.div_lt_iff_lt_mul hpos]
    omega

theorem encPairs_length (m j : Nat) : (encPairs m j).length = 2 * j := by
  induction j with
  | zero => rfl
  | succ i ih => simp [encPairs, ih]; omega

theorem encodeUint_length (v : Nat) : (encodeUint v).length = 2 * Nat.log2 (v + 1) + 1 := by
  simp [encodeUint, encPairs_length]

/-- `read_uint` decodes what `write_uint` writes, and stops right behind it -/
theorem readUint_free (v : Nat) {all : List Bool} {pos : Nat} {suf : List Bool}
    (h : all.drop pos = encodeUint v ++ suf) :
    Reader.readUint ⟨all, pos, none⟩ = .ok ((v : Int), ⟨all, pos + (encodeUint v).length, none⟩) := by
  have hfuel : Nat.log2 (v + 1) < Reader.fuel ⟨all, pos, none⟩ := by
    have := congrArg List.length h
    simp only [List.length_drop, List.length_append, encodeUint_length] at this
    simp only [Reader.fuel]; omega
  have e := readUintLoop_free (v + 1) _ (by simpa [encodeUint] using h) hfuel
  rw [(div_pow_eq_one_iff (v + 1) _).2 ⟨by omega, rfl⟩] at e
  simp only [Reader.readUint, e, bind, Except.bind, pure, Except.pure, encodeUint_length]
  congr 3; omega

theorem readSint_free (v : Int) {all : List Bool} {pos : Nat} {suf : List Bool}
    (h : all.drop pos = encodeSint v ++ suf) :
    Reader.readSint ⟨all, pos, none⟩ = .ok (v, ⟨all, pos + (encodeSint v).length, none⟩) := by
  unfold encodeSint at h ⊢
  rw [List.append_assoc] at h
  simp only [Reader.readSint, readUint_free _ h, bind, Except.bind]
  by_cases h0 : v = 0
  · simp [h0, pure, Except.pure]
  · have hne : ((v.natAbs : Nat) : Int) ≠ 0 := by omega
    simp only [h0, if_false, List.singleton_append] at h ⊢
    simp only [ne_eq, hne, not_false_eq_true, if_true, readBit_free (drop_add_of_eq_append h),
      pure, Except.pure, List.length_append, List.length_singleton, Nat.add_assoc]
    congr 3
    by_cases hneg : v < 0 <;> simp [hneg] <;> omega

/-! ### Writing outside a bounded block -/

theorem writeBits_free : ∀ (bs : List Bool) (w : Writer), w.rem = none →
    w.writeBits bs = .ok { w with out := w.out ++ bs } := by
  intro bs
  induction bs with
  | nil => intro w _; simp [Writer.writeBits]
  | cons b bs ih =>
    intro w hw
    have e : w.writeBit b = .ok { w with out := w.out ++ [b] } := by
      unfold Writer.writeBit; rw [hw]
    simp only [Writer.writeBits, e, bind, Except.bind]
    rw [ih _ (by simpa using hw)]
    simp [List.append_assoc]

theorem writeUint_free (n : Nat) (w : Writer) (hw : w.rem = none) :
    w.writeUint n = .ok { w with out := w.out ++ encodeUint n } := by
  unfold Writer.writeUint
  rw [if_neg (by omega), Int.toNat_natCast, writeBits_free _ _ hw]

theorem writeSint_free (v : Int) (w : Writer) (hw : w.rem = none) :
    w.writeSint v = .ok { w with out := w.out ++ encodeSint v } := by
  unfold Writer.writeSint encodeSint
  rw [pyabs_eq, writeUint_free _ _ hw]
  by_cases h0 : v = 0
  · simp [h0, bind, Except.bind, pure, Except.pure]
  · simp [h0, bind, Except.bind, Writer.writeBit, hw]

/-- Python's `bit_length` bounds the value -/
theorem bitLength_le_iff (n k : Nat) : bitLength (n : Int) ≤ k ↔ n < 2 ^ k := by
  unfold bitLength
  by_cases h0 : n = 0
  · simp [h0, Nat.two_pow_pos]
  · rw [if_neg (by omega), Int.natAbs_natCast, ← Nat.log2_lt h0]; omega

theorem writeNbits_free (k n : Nat) (h : n < 2 ^ k) (w : Writer) (hw : w.rem = none) :
    w.writeNbits k n = .ok { w with out := w.out ++ nbitsOf n k } := by
  have := (bitLength_le_iff n k).2 h
  unfold Writer.writeNbits
  rw [if_neg (by omega), Int.toNat_natCast, Int.toNat_natCast, writeBits_free _ _ hw]

theorem writeBitarray_free (k : Nat) (value : List Bool) (h : value.length ≤ k) (w : Writer)
    (hw : w.rem = none) :
    w.writeBitarray k value =
      .ok { w with out := w.out ++ (value ++ List.replicate (k - value.length) false) } := by
  unfold Writer.writeBitarray
  rw [if_neg (by omega), Int.toNat_natCast, writeBits_free _ _ hw]

theorem nbitsOf_length (n : Nat) : ∀ j, (nbitsOf n j).length = j := by
  intro j; induction j with
  | zero => rfl
  | succ i ih => simp [nbitsOf, ih]

/-! ### Lengths -/

theorem bitLength_succ (v : Nat) : bitLength ((v : Int) + 1) = (Nat.log2 (v + 1) + 1 : Nat) := by
  unfold bitLength
  have h : ((v : Int) + 1) ≠ 0 := by omega
  have e : ((v : Int) + 1).natAbs = v + 1 := by omega
  simp [h, e]

theorem exp_golomb_length_eq (v : Nat) :
    exp_golomb_length (v : Int) = ((encodeUint v).length : Int) := by
  unfold exp_golomb_length
  have h : ¬ ((v : Int) < 0) := by omega
  simp only [h, if_false, bitLength_succ, encodeUint_length]
  omega

theorem signed_exp_golomb_length_eq (v : Int) :
    signed_exp_golomb_length v = ((encodeSint v).length : Int) := by
  unfold signed_exp_golomb_length encodeSint
  rw [pyabs_eq, exp_golomb_length_eq]
  by_cases h : v = 0 <;> simp [h]

/-! ### Fuel is never exhausted -/

/-- a bit read fails only at the end of the input; a 0 it returns is a real bit of the input -/
theorem readBit_cases (r : Reader) :
    r.readBit = .error .eof ∨ ∃ b r', r.readBit = .ok (b, r') ∧ r'.all = r.all ∧ r.pos ≤ r'.pos ∧
      (b = false → r.pos < r'.pos ∧ r'.pos ≤ r.all.length) := by
  have raw : ∀ r : Reader, r.rawBit = .error .eof ∨
      r.rawBit = .ok (r.all[r.pos]?.getD true, { r with pos := r.pos + 1 }) ∧ r.pos < r.all.length := by
    intro r
    unfold Reader.rawBit
    cases h : r.all[r.pos]? with
    | none => exact .inl rfl
    | some b => exact .inr ⟨rfl, (List.getElem?_eq_some_iff.1 h).1⟩
  unfold Reader.readBit
  split
  · split
    · exact .inr ⟨true, _, rfl, rfl, Nat.le_refl _, by simp⟩
    · rcases raw { r with rem := _ } with h | ⟨h, hlt⟩
      · exact .inl h
      · exact .inr ⟨_, _, h, rfl, Nat.le_succ _, fun _ => ⟨Nat.lt_succ_self _, hlt⟩⟩
  · rcases raw r with h | ⟨h, hlt⟩
    · exact .inl h
    · exact .inr ⟨_, _, h, rfl, Nat.le_succ _, fun _ => ⟨Nat.lt_succ_self _, hlt⟩⟩

theorem readUintLoop_fuel : ∀ (fuel : Nat) (r : Reader) (v : Nat),
    r.all.length - r.pos < fuel → Reader.readUintLoop fuel r v ≠ .error .fuel := by
  intro fuel
  induction fuel with
  | zero => intro r v h; omega
  | succ f ih =>
    intro r v h
    unfold Reader.readUintLoop
    rcases readBit_cases r with e1 | ⟨b, r1, e1, ha1, hp1, hb1⟩ <;> simp only [e1, bind, Except.bind]
    · simp
    cases b with
    | true => simp [pure, Except.pure]
    | false =>
      simp only [Bool.false_eq_true, if_false]
      rcases readBit_cases r1 with e2 | ⟨b2, r2, e2, ha2, hp2, _⟩ <;> simp only [e2]
      · simp
      exact ih r2 _ (by have := hb1 rfl; rw [ha2, ha1]; omega)

/-- `read_uint` never fails for want of loop iterations: the model's fuel is adequate -/
theorem readUint_no_fuel_error (r : Reader) : r.readUint ≠ .error .fuel := by
  unfold Reader.readUint
  have := readUintLoop_fuel r.fuel r 1 (by unfold Reader.fuel; omega)
  cases h : Reader.readUintLoop r.fuel r 1 with
  | error e => simp only [bind, Except.bind]; intro hc; injection hc with hc; subst hc; exact this h
  | ok p => simp [bind, Except.bind, pure, Except.pure]

/-! ### The two readers agree -/

/-- simulation relation: same stream, same position, and the validator's `bits_left` is the
    bitstream reader's `bits_remaining` clamped at zero -/
def Sim (r : Reader) (d : DReader) : Prop :=
  r.all = d.all ∧ r.pos = d.pos ∧ ∃ n : Int, r.rem = some n ∧ d.bitsLeft = (if n < 0 then 0 else n)

/-- outcome agreement up to a relation on the successor states -/
def AgreeR (R : Reader → DReader → Prop) {α : Type}
    (a : Except IOErr (α × Reader)) (b : Except IOErr (α × DReader)) : Prop :=
  match a, b with
  | .ok (x, r'), .ok (y, d') => x = y ∧ R r' d'
  | .error e, .error e' => e = e'
  | _, _ => False

abbrev Agree {α : Type} := @AgreeR Sim α

/-- outside bounded blocks: same stream and position, reader not in a block -/
def Sim0 (r : Reader) (d : DReader) : Prop := r.all = d.all ∧ r.pos = d.pos ∧ r.rem = none
abbrev Agree0 {α : Type} := @AgreeR Sim0 α

theorem agree_bind {R : Reader → DReader → Prop} {α β : Type}
    (a : Except IOErr (α × Reader)) (b : Except IOErr (α × DReader))
    (f : α × Reader → Except IOErr (β × Reader)) (g : α × DReader → Except IOErr (β × DReader))
    (h : AgreeR R a b) (hk : ∀ x r d, R r d → AgreeR R (f (x, r)) (g (x, d))) :
    AgreeR R (a >>= f) (b >>= g) := by
  cases a with
  | error e =>
    cases b with
    | error e' => simpa [AgreeR, bind, Except.bind] using h
    | ok q => exact h.elim
  | ok p =>
    cases b with
    | error e' => exact h.elim
    | ok q =>
      obtain ⟨x, r⟩ := p; obtain ⟨y, d⟩ := q
      obtain ⟨hxy, hs⟩ := h
      subst hxy
      exact hk x r d hs

/-- what the first reader returns, the second returns too -/
theorem AgreeR.ok {R : Reader → DReader → Prop} {α : Type} {a : Except IOErr (α × Reader)}
    {b : Except IOErr (α × DReader)} {x : α} {r' : Reader} (h : AgreeR R a b) (e : a = .ok (x, r')) :
    ∃ d', b = .ok (x, d') ∧ R r' d' := by
  subst e
  match b, h with
  | .ok (_, d'), ⟨rfl, hs⟩ => exact ⟨d', rfl, hs⟩

theorem AgreeR.error {R : Reader → DReader → Prop} {α : Type} {a : Except IOErr (α × Reader)}
    {b : Except IOErr (α × DReader)} {e : IOErr} (h : AgreeR R a b) (ea : a = .error e) :
    b = .error e := by
  subst ea
  match b, h with
  | .error _, rfl => rfl

/- The loops of the two readers differ only in the bit read they are built from; whatever relation
   `R` that bit read preserves (and which fixes the fuel), the loops preserve. -/

/-- the bit read the validator's exp-Golomb readers are built from -/
def bitG (bounded : Bool) (d : DReader) : Except IOErr (Bool × DReader) :=
  if bounded then d.readBitb else d.readBit

theorem readUintLoop_succ (bounded : Bool) (fuel : Nat) (d : DReader) (value : Nat) :
    DReader.readUintLoop bounded (fuel + 1) d value = bitG bounded d >>= fun (b, d1) =>
      if b then pure (value, d1)
      else bitG bounded d1 >>= fun (b2, d2) =>
        DReader.readUintLoop bounded fuel d2 (value * 2 + (if b2 then 1 else 0)) := by
  cases bounded <;> rfl

theorem readSintG_eq (bounded : Bool) (d : DReader) :
    d.readSintG bounded = d.readUintG bounded >>= fun (v, d1) =>
      if v ≠ 0 then bitG bounded d1 >>= fun (b, d2) => pure (if b then -v else v, d2) else pure (v, d1) := by
  cases bounded <;> rfl

section Generic
variable {R : Reader → DReader → Prop} {bounded : Bool}
  (hbit : ∀ r d, R r d → AgreeR R r.readBit (bitG bounded d))
  (hfuel : ∀ r d, R r d → r.fuel = d.fuel)
include hbit

theorem agree_readUintLoop : ∀ (fuel : Nat) (r : Reader) (d : DReader) (v : Nat), R r d →
    AgreeR R (Reader.readUintLoop fuel r v) (DReader.readUintLoop bounded fuel d v) := by
  intro fuel
  induction fuel with
  | zero => intro r d v _; simp [Reader.readUintLoop, DReader.readUintLoop, AgreeR]
  | succ f ih =>
    intro r d v h
    rw [readUintLoop_succ, Reader.readUintLoop]
    apply agree_bind _ _ _ _ (hbit r d h)
    intro b r1 d1 hs
    cases b with
    | true => exact ⟨rfl, hs⟩
    | false =>
      simp only [Bool.false_eq_true, if_false]
      apply agree_bind _ _ _ _ (hbit r1 d1 hs)
      intro b2 r2 d2 hs2
      exact ih r2 d2 _ hs2

include hfuel

theorem agree_readUint (r : Reader) (d : DReader) (h : R r d) :
    AgreeR R r.readUint (d.readUintG bounded) := by
  unfold Reader.readUint DReader.readUintG
  rw [hfuel r d h]
  apply agree_bind _ _ _ _ (agree_readUintLoop hbit d.fuel r d 1 h)
  intro v r1 d1 hs
  exact ⟨rfl, hs⟩

theorem agree_readSint (r : Reader) (d : DReader) (h : R r d) :
    AgreeR R r.readSint (d.readSintG bounded) := by
  rw [readSintG_eq, Reader.readSint]
  apply agree_bind _ _ _ _ (agree_readUint hbit hfuel r d h)
  intro v r1 d1 hs
  by_cases h0 : v = 0
  · simp only [h0, ne_eq, not_true_eq_false, if_false]; exact ⟨rfl, hs⟩
  · simp only [ne_eq, h0, not_false_eq_true, if_true]
    apply agree_bind _ _ _ _ (hbit r1 d1 hs)
    intro b r2 d2 hs2
    exact ⟨rfl, hs2⟩

end Generic

theorem fuel_eq {r : Reader} {d : DReader} (ha : r.all = d.all) (hp : r.pos = d.pos) : r.fuel = d.fuel := by
  unfold Reader.fuel DReader.fuel; rw [ha, hp]

/-! inside a bounded block, bounded reads -/

theorem sim_readBit (r : Reader) (d : DReader) (h : Sim r d) : Agree r.readBit d.readBitb := by
  obtain ⟨ha, hp, n, hn, hl⟩ := h
  unfold Reader.readBit DReader.readBitb
  rw [hn]; simp only
  by_cases hpos : n - 1 ≤ -1
  · have hz : d.bitsLeft = 0 := by rw [hl]; split <;> omega
    rw [if_pos hpos, if_pos hz]
    exact ⟨rfl, ha, hp, n - 1, rfl, by rw [hz, if_pos (by omega)]⟩
  · have hnz : d.bitsLeft = n := by rw [hl, if_neg (by omega)]
    rw [if_neg hpos, if_neg (by omega)]
    unfold Reader.rawBit DReader.readBit
    simp only [ha, hp]
    cases hg : d.all[d.pos]? with
    | none => exact rfl
    | some b => exact ⟨rfl, rfl, rfl, n - 1, rfl, by simp only [hnz]; rw [if_neg (by omega)]⟩

theorem sim_fuel (r : Reader) (d : DReader) (h : Sim r d) : r.fuel = d.fuel := fuel_eq h.1 h.2.1

theorem sim_readUint (r : Reader) (d : DReader) (h : Sim r d) : Agree r.readUint (d.readUintG true) :=
  agree_readUint (bounded := true) sim_readBit sim_fuel r d h

theorem sim_readSint (r : Reader) (d : DReader) (h : Sim r d) : Agree r.readSint (d.readSintG true) :=
  agree_readSint (bounded := true) sim_readBit sim_fuel r d h

/-! outside, the un-bounded primitives of the validator's reader -/

theorem sim0_readBit (r : Reader) (d : DReader) (h : Sim0 r d) : Agree0 r.readBit d.readBit := by
  obtain ⟨ha, hp, hn⟩ := h
  unfold Reader.readBit Reader.rawBit DReader.readBit
  rw [hn]; simp only [ha, hp]
  cases hg : d.all[d.pos]? with
  | none => simp [AgreeR]
  | some b => exact ⟨rfl, rfl, rfl, rfl⟩

theorem sim0_fuel (r : Reader) (d : DReader) (h : Sim0 r d) : r.fuel = d.fuel := fuel_eq h.1 h.2.1

theorem sim0_readUint (r : Reader) (d : DReader) (h : Sim0 r d) : Agree0 r.readUint (d.readUintG false) :=
  agree_readUint (bounded := false) sim0_readBit sim0_fuel r d h

theorem sim0_readSint (r : Reader) (d : DReader) (h : Sim0 r d) : Agree0 r.readSint (d.readSintG false) :=
  agree_readSint (bounded := false) sim0_readBit sim0_fuel r d h

theorem sim0_readNbitsLoop : ∀ (n : Nat) (r : Reader) (d : DReader) (v : Nat), Sim0 r d →
    Agree0 (Reader.readNbitsLoop n r v) (DReader.readNbitsLoop n d v) := by
  intro n
  induction n with
  | zero => intro r d v h; exact ⟨rfl, h⟩
  | succ i ih =>
    intro r d v h
    unfold Reader.readNbitsLoop DReader.readNbitsLoop
    apply agree_bind _ _ _ _ (sim0_readBit r d h)
    intro b r1 d1 hs
    exact ih r1 d1 _ hs

theorem sim0_readNbits (k : Int) (r : Reader) (d : DReader) (h : Sim0 r d) :
    Agree0 (r.readNbits k) (d.readNbits k) :=
  sim0_readNbitsLoop _ r d 0 h

/-- `bits_left` never becomes negative when it starts non-negative -/
theorem readBitb_nonneg (d d' : DReader) (b : Bool) (h0 : 0 ≤ d.bitsLeft)
    (h : d.readBitb = .ok (b, d')) : 0 ≤ d'.bitsLeft ∧ d'.bitsLeft ≤ d.bitsLeft := by
  unfold DReader.readBitb at h
  by_cases hz : d.bitsLeft = 0
  · rw [if_pos hz] at h; injection h with h; injection h with _ h2; subst h2; omega
  · rw [if_neg hz] at h
    unfold DReader.readBit at h
    simp only at h
    split at h
    · cases h
    · injection h with h; injection h with _ h2; subst h2; simp; omega

end VC2.Proofs.BitIO
