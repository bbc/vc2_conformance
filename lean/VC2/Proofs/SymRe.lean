/-
  Lemmas for C18 (symbol regular expressions): Thompson construction soundness,
  completeness and trimness, generic in the letter-matching relation.  Core Lean only.
-/
import VC2.Model.SymRe
namespace VC2.Proofs.SymRe
open VC2 VC2.Model.SymRe

section Generic
variable {Sym : Type} (m : String → Sym → Prop)

/-- denotational language of a pattern; `m s a` = "label `s` matches letter `a`" -/
inductive Lang : Ast → List Sym → Prop
  | empty : Lang .empty []
  | sym {s : String} {a : Sym} : m s a → Lang (.sym s) [a]
  | cat {a b : Ast} {u v : List Sym} : Lang a u → Lang b v → Lang (.cat a b) (u ++ v)
  | altL {a b : Ast} {u : List Sym} : Lang a u → Lang (.alt a b) u
  | altR {a b : Ast} {u : List Sym} : Lang b u → Lang (.alt a b) u
  | starNil {e : Ast} : Lang (.star e) []
  | starCons {e : Ast} {u v : List Sym} : Lang e u → Lang (.star e) v → Lang (.star e) (u ++ v)

/-- runs of the automaton -/
inductive Path (es : List Edge) : Nat → List Sym → Nat → Prop
  | nil (q : Nat) : Path es q [] q
  | eps {p q r : Nat} {w : List Sym} : (⟨p, none, q⟩ : Edge) ∈ es → Path es q w r → Path es p w r
  | step {p q r : Nat} {s : String} {a : Sym} {w : List Sym} :
      (⟨p, some s, q⟩ : Edge) ∈ es → m s a → Path es q w r → Path es p (a :: w) r

theorem Path.mono {es es' : List Edge} (h : ∀ e ∈ es, e ∈ es') {p r : Nat} {w : List Sym}
    (hp : Path m es p w r) : Path m es' p w r := by
  induction hp with
  | nil q => exact .nil q
  | eps he _ ih => exact .eps (h _ he) ih
  | step he hm _ ih => exact .step (h _ he) hm ih

theorem Path.trans {es : List Edge} {p q r : Nat} {u v : List Sym}
    (h1 : Path m es p u q) (h2 : Path m es q v r) : Path m es p (u ++ v) r := by
  induction h1 with
  | nil q => simpa using h2
  | eps he _ ih => exact .eps he (ih h2)
  | step he hm _ ih => exact .step he hm (ih h2)

theorem Path.single_eps {es : List Edge} {p q : Nat} (h : (⟨p, none, q⟩ : Edge) ∈ es) :
    Path m es p ([] : List Sym) q := .eps h (.nil q)

/-- a run ends with ε-moves: `Path.trans` with the empty word on the right -/
theorem Path.trans_eps {es : List Edge} {p q r : Nat} {u : List Sym}
    (h1 : Path m es p u q) (h2 : Path m es q [] r) : Path m es p u r := by
  simpa using h1.trans m h2

/-- a run on `x :: u` is ε-moves, one edge whose label matches `x`, and a run on `u` -/
theorem Path.cons_inv {es : List Edge} {p r : Nat} {w : List Sym} (hp : Path m es p w r) :
    ∀ {x : Sym} {u : List Sym}, w = x :: u →
    ∃ p' s q, Path m es p [] p' ∧ (⟨p', some s, q⟩ : Edge) ∈ es ∧ m s x ∧ Path m es q u r := by
  induction hp with
  | nil q => intro x u h; cases h
  | eps he _ ih =>
    intro x u h
    obtain ⟨p', s, q, hp', rest⟩ := ih h
    exact ⟨p', s, q, .eps he hp', rest⟩
  | @step p q r s a w he hm hrest _ =>
    intro x u h
    cases h
    exact ⟨p, s, q, .nil _, he, hm, hrest⟩

/-- converse of `Path.trans` -/
theorem Path.split {es : List Edge} {r : Nat} : ∀ (u : List Sym) {v : List Sym} {p : Nat},
    Path m es p (u ++ v) r → ∃ q, Path m es p u q ∧ Path m es q v r
  | [], _, p, h => ⟨p, .nil p, h⟩
  | x :: u, _, _, h => by
    obtain ⟨p', s, q, h1, he, hm, h2⟩ := h.cons_inv m (List.cons_append ..)
    obtain ⟨q', h3, h4⟩ := Path.split u h2
    exact ⟨q', h1.trans m (.step he hm h3), h4⟩

/-- the last letter of a run: some edge taken after a run on `u` matches `x` -/
theorem Path.snoc_iff {es : List Edge} {p : Nat} {u : List Sym} {x : Sym} :
    (∃ r, Path m es p (u ++ [x]) r) ↔
    ∃ q s r, Path m es p u q ∧ (⟨q, some s, r⟩ : Edge) ∈ es ∧ m s x := by
  constructor
  · rintro ⟨r, h⟩
    obtain ⟨q, h1, h2⟩ := Path.split m u h
    obtain ⟨q', s, r', h3, he, hm, _⟩ := h2.cons_inv m rfl
    exact ⟨q', s, r', h1.trans_eps m h3, he, hm⟩
  · rintro ⟨q, s, r, h, he, hm⟩
    exact ⟨r, h.trans m (.step he hm (.nil r))⟩

/-- a run stays where it starts or ends at the target of an edge -/
theorem Path.end_eq_or_dst {es : List Edge} {p r : Nat} {w : List Sym} (hp : Path m es p w r) :
    r = p ∨ ∃ e ∈ es, e.dst = r := by
  induction hp with
  | nil q => exact .inl rfl
  | eps he _ ih => exact .inr (ih.elim (fun h => ⟨_, he, h.symm⟩) id)
  | step he _ _ ih => exact .inr (ih.elim (fun h => ⟨_, he, h.symm⟩) id)

/-! ### node ranges -/

def InRange (n k q : Nat) : Prop := n ≤ q ∧ q < k

/-- the node ranges of sub-fragments nest -/
theorem InRange.mono {n n' k k' q : Nat} (h : InRange n k q) (hn : n' ≤ n) (hk : k ≤ k') :
    InRange n' k' q := ⟨Nat.le_trans hn h.1, Nat.lt_of_lt_of_le h.2 hk⟩

theorem InRange.le {n k q : Nat} (h : InRange n k q) : n ≤ k := Nat.le_of_lt (Nat.lt_of_le_of_lt h.1 h.2)

/-- `build r n` uses exactly the node ids `n ≤ q < next`: its start, its final node and both
    ends of every edge lie there (so `n < next`) -/
theorem build_range (r : Ast) : ∀ n,
    InRange n (build r n).next (build r n).start ∧ InRange n (build r n).next (build r n).final ∧
    ∀ e ∈ (build r n).edges, InRange n (build r n).next e.src ∧ InRange n (build r n).next e.dst := by
  induction r with
  | empty => intro n; simp [build, InRange]
  | sym s => intro n; simp [build, InRange]
  | star e ih =>
    intro n
    have ⟨hs, hf, he⟩ := ih (n + 2)
    have hn : n ≤ n + 2 := Nat.le_add_right ..
    have hk := Nat.le_refl (build e (n + 2)).next
    have N0 : InRange n (build e (n + 2)).next n := ⟨Nat.le_refl _, by have := hs.le; omega⟩
    have N1 : InRange n (build e (n + 2)).next (n + 1) := ⟨Nat.le_succ _, by have := hs.le; omega⟩
    have S := hs.mono hn hk
    have F := hf.mono hn hk
    simp only [build, List.forall_mem_append, List.forall_mem_cons, List.not_mem_nil, false_imp_iff,
      implies_true, and_true]
    exact ⟨N0, N1, fun d hd => ⟨(he d hd).1.mono hn hk, (he d hd).2.mono hn hk⟩,
      ⟨N0, N1⟩, ⟨N0, S⟩, ⟨F, S⟩, ⟨F, N1⟩⟩
  | cat a b iha ihb =>
    intro n
    have ⟨hsa, hfa, hea⟩ := iha n
    have ⟨hsb, hfb, heb⟩ := ihb (build a n).next
    have hn := Nat.le_refl n
    have hk := Nat.le_refl (build b (build a n).next).next
    have S := hsa.mono hn hsb.le
    have F := hfb.mono hsa.le hk
    simp only [build, List.forall_mem_append, List.forall_mem_cons, List.not_mem_nil, false_imp_iff,
      implies_true, and_true]
    exact ⟨S, F, ⟨fun e he => ⟨(hea e he).1.mono hn hsb.le, (hea e he).2.mono hn hsb.le⟩,
      fun e he => ⟨(heb e he).1.mono hsa.le hk, (heb e he).2.mono hsa.le hk⟩⟩,
      hfa.mono hn hsb.le, hsb.mono hsa.le hk⟩
  | alt a b iha ihb =>
    intro n
    have ⟨hsa, hfa, hea⟩ := iha (n + 2)
    have ⟨hsb, hfb, heb⟩ := ihb (build a (n + 2)).next
    have hn : n ≤ n + 2 := Nat.le_add_right ..
    have hna : n ≤ (build a (n + 2)).next := Nat.le_trans hn hsa.le
    have hk := Nat.le_refl (build b (build a (n + 2)).next).next
    have N0 : InRange n (build b (build a (n + 2)).next).next n :=
      ⟨Nat.le_refl _, by have := hsa.le; have := hsb.le; omega⟩
    have N1 : InRange n (build b (build a (n + 2)).next).next (n + 1) :=
      ⟨Nat.le_succ _, by have := hsa.le; have := hsb.le; omega⟩
    simp only [build, List.forall_mem_append, List.forall_mem_cons, List.not_mem_nil, false_imp_iff,
      implies_true, and_true]
    exact ⟨N0, N1, ⟨fun e he => ⟨(hea e he).1.mono hn hsb.le, (hea e he).2.mono hn hsb.le⟩,
      fun e he => ⟨(heb e he).1.mono hna hk, (heb e he).2.mono hna hk⟩⟩,
      ⟨N0, hsa.mono hn hsb.le⟩, ⟨N0, hsb.mono hna hk⟩, ⟨hfa.mono hn hsb.le, N1⟩, ⟨hfb.mono hna hk, N1⟩⟩

/-! ### sub-fragments: the edges of a part are edges of the whole -/

theorem edges_cat_left (a b : Ast) (n : Nat) : ∀ e ∈ (build a n).edges, e ∈ (build (.cat a b) n).edges :=
  fun e he => by simp [build, he]
theorem edges_cat_right (a b : Ast) (n : Nat) :
    ∀ e ∈ (build b (build a n).next).edges, e ∈ (build (.cat a b) n).edges :=
  fun e he => by simp [build, he]
theorem edges_alt_left (a b : Ast) (n : Nat) :
    ∀ e ∈ (build a (n + 2)).edges, e ∈ (build (.alt a b) n).edges :=
  fun e he => by simp [build, he]
theorem edges_alt_right (a b : Ast) (n : Nat) :
    ∀ e ∈ (build b (build a (n + 2)).next).edges, e ∈ (build (.alt a b) n).edges :=
  fun e he => by simp [build, he]
theorem edges_star (e : Ast) (n : Nat) : ∀ d ∈ (build e (n + 2)).edges, d ∈ (build (.star e) n).edges :=
  fun d hd => by simp [build, hd]

/-! ### … and the ε-edges that glue the parts together -/

theorem mem_cat_link (a b : Ast) (n : Nat) :
    (⟨(build a n).final, none, (build b (build a n).next).start⟩ : Edge) ∈ (build (.cat a b) n).edges := by
  simp [build]
theorem mem_alt_inL (a b : Ast) (n : Nat) :
    (⟨n, none, (build a (n + 2)).start⟩ : Edge) ∈ (build (.alt a b) n).edges := by simp [build]
theorem mem_alt_inR (a b : Ast) (n : Nat) :
    (⟨n, none, (build b (build a (n + 2)).next).start⟩ : Edge) ∈ (build (.alt a b) n).edges := by simp [build]
theorem mem_alt_outL (a b : Ast) (n : Nat) :
    (⟨(build a (n + 2)).final, none, n + 1⟩ : Edge) ∈ (build (.alt a b) n).edges := by simp [build]
theorem mem_alt_outR (a b : Ast) (n : Nat) :
    (⟨(build b (build a (n + 2)).next).final, none, n + 1⟩ : Edge) ∈ (build (.alt a b) n).edges := by
  simp [build]
theorem mem_star_skip (e : Ast) (n : Nat) : (⟨n, none, n + 1⟩ : Edge) ∈ (build (.star e) n).edges := by
  simp [build]
theorem mem_star_enter (e : Ast) (n : Nat) :
    (⟨n, none, (build e (n + 2)).start⟩ : Edge) ∈ (build (.star e) n).edges := by simp [build]
theorem mem_star_loop (e : Ast) (n : Nat) :
    (⟨(build e (n + 2)).final, none, (build e (n + 2)).start⟩ : Edge) ∈ (build (.star e) n).edges := by
  simp [build]
theorem mem_star_exit (e : Ast) (n : Nat) :
    (⟨(build e (n + 2)).final, none, n + 1⟩ : Edge) ∈ (build (.star e) n).edges := by simp [build]

/-! ### completeness: every word of the language labels a start→final run -/

/-- iterating the body: any node `p` that has the star's two ways on (skip to the final node,
    enter the body) accepts every word of the star; `p` is the star's start node or the body's
    final node -/
theorem star_complete (e : Ast) (n : Nat)
    (he : ∀ u, Lang m e u → Path m (build e (n + 2)).edges (build e (n + 2)).start u (build e (n + 2)).final)
    {r : Ast} {v : List Sym} (h : Lang m r v) : r = .star e → ∀ p,
    (⟨p, none, n + 1⟩ : Edge) ∈ (build (.star e) n).edges →
    (⟨p, none, (build e (n + 2)).start⟩ : Edge) ∈ (build (.star e) n).edges →
    Path m (build (.star e) n).edges p v (n + 1) := by
  induction h with
  | starNil => exact fun _ p skip _ => .eps skip (.nil _)
  | starCons hu _ _ ih =>
    intro hr p _ enter
    cases hr
    exact .eps enter (((he _ hu).mono m (edges_star e n)).trans m
      (ih rfl _ (mem_star_exit e n) (mem_star_loop e n)))
  | _ => intro hr; cases hr

theorem build_complete (r : Ast) (w : List Sym) (h : Lang m r w) : ∀ (n : Nat),
    Path m (build r n).edges (build r n).start w (build r n).final := by
  induction r generalizing w with
  | empty => cases h; exact fun n => .nil _
  | sym s => cases h with | sym hm => exact fun n => .step (by simp [build]) hm (.nil _)
  | cat a b iha ihb =>
    cases h with | cat ha hb =>
    exact fun n => ((iha _ ha n).mono m (edges_cat_left a b n)).trans m
      (.eps (mem_cat_link a b n) ((ihb _ hb _).mono m (edges_cat_right a b n)))
  | alt a b iha ihb =>
    intro n
    cases h with
    | altL ha =>
      exact .eps (mem_alt_inL a b n) (((iha _ ha _).mono m (edges_alt_left a b n)).trans_eps m
        (.single_eps m (mem_alt_outL a b n)))
    | altR hb =>
      exact .eps (mem_alt_inR a b n) (((ihb _ hb _).mono m (edges_alt_right a b n)).trans_eps m
        (.single_eps m (mem_alt_outR a b n)))
  | star e ih =>
    exact fun n => star_complete m e n (fun u hu => ih u hu _) h rfl n (mem_star_skip e n) (mem_star_enter e n)

/-! ### soundness via right-language labelling -/

def LCat (A B : List Sym → Prop) : List Sym → Prop := fun w => ∃ u v, w = u ++ v ∧ A u ∧ B v

theorem LCat.nil_left {A B : List Sym → Prop} {w : List Sym} (ha : A []) (hb : B w) : LCat A B w :=
  ⟨[], w, rfl, ha, hb⟩

theorem LCat.mono_left {A A' B : List Sym → Prop} (h : ∀ u, A u → A' u) {w : List Sym} :
    LCat A B w → LCat A' B w := fun ⟨u, v, e, hu, hv⟩ => ⟨u, v, e, h u hu, hv⟩

/-- `A · (B · K) ⊆ C · K` when `A · B ⊆ C` -/
theorem LCat.assoc {A B C K : List Sym → Prop} (h : ∀ u v, A u → B v → C (u ++ v)) {w : List Sym} :
    LCat A (LCat B K) w → LCat C K w := by
  rintro ⟨u, _, rfl, hu, v1, v2, rfl, hv1, hv2⟩
  exact ⟨u ++ v1, v2, by simp, h u v1 hu hv1, hv2⟩

/-- a labelling is respected by an edge set -/
def Respects (lab : Nat → List Sym → Prop) (es : List Edge) : Prop :=
  ∀ e ∈ es, match e.lbl with
    | none => ∀ w, lab e.dst w → lab e.src w
    | some s => ∀ a w, m s a → lab e.dst w → lab e.src (a :: w)

theorem respects_congr {lab lab' : Nat → List Sym → Prop} {es : List Edge}
    (h : Respects m lab es)
    (hc : ∀ e ∈ es, (∀ w, lab e.src w ↔ lab' e.src w) ∧ (∀ w, lab e.dst w ↔ lab' e.dst w)) :
    Respects m lab' es := by
  intro e he
  have := h e he
  have ⟨c1, c2⟩ := hc e he
  cases hl : e.lbl with
  | none => rw [hl] at this; simp only at this ⊢; intro w hw; exact (c1 w).1 (this w ((c2 w).2 hw))
  | some s =>
    rw [hl] at this; simp only at this ⊢
    intro a w hm hw; exact (c1 _).1 (this a w hm ((c2 w).2 hw))

theorem respects_append {lab : Nat → List Sym → Prop} {es es' : List Edge} :
    Respects m lab (es ++ es') ↔ Respects m lab es ∧ Respects m lab es' := List.forall_mem_append

theorem respects_cons_eps {lab : Nat → List Sym → Prop} {p q : Nat} {es : List Edge} :
    Respects m lab (⟨p, none, q⟩ :: es) ↔ (∀ w, lab q w → lab p w) ∧ Respects m lab es :=
  List.forall_mem_cons

theorem respects_nil {lab : Nat → List Sym → Prop} : Respects m lab [] := fun _ h => nomatch h

theorem sound_of_respects {lab : Nat → List Sym → Prop} {es : List Edge} (h : Respects m lab es)
    {p q : Nat} {w : List Sym} (hp : Path m es p w q) : ∀ v, lab q v → lab p (w ++ v) := by
  induction hp with
  | nil q => exact fun v hv => hv
  | eps he _ ih => exact fun v hv => h _ he _ (ih v hv)
  | step he hm _ ih => exact fun v hv => h _ he _ _ hm (ih v hv)

/-- labelling of a fragment that puts fresh nodes `n` (start) and `n + 1` (final) around a body
    whose nodes are numbered from `n + 2` -/
def wrap (n : Nat) (S F : List Sym → Prop) (body : Nat → List Sym → Prop) : Nat → List Sym → Prop :=
  fun q => if q = n then S else if q = n + 1 then F else body q

/-- labelling of two fragments side by side, the second numbered from `k` -/
def glue (k : Nat) (la lb : Nat → List Sym → Prop) : Nat → List Sym → Prop :=
  fun q => if q < k then la q else lb q

section
variable {n k q : Nat} {S F : List Sym → Prop} {body la lb : Nat → List Sym → Prop}

theorem wrap_start : wrap n S F body n = S := if_pos rfl
theorem wrap_final : wrap n S F body (n + 1) = F := by simp [wrap]
theorem wrap_body (h : n + 2 ≤ q) : wrap n S F body q = body q := by
  unfold wrap; rw [if_neg (by omega), if_neg (by omega)]
theorem glue_left (h : q < k) : glue k la lb q = la q := if_pos h
theorem glue_right (h : k ≤ q) : glue k la lb q = lb q := if_neg (by omega)
end

/-- a labelling that agrees with a respected one at both ends of every edge is respected -/
theorem Respects.congr_eq {lab lab' : Nat → List Sym → Prop} {es : List Edge} (h : Respects m lab es)
    (hc : ∀ e ∈ es, lab' e.src = lab e.src ∧ lab' e.dst = lab e.dst) : Respects m lab' es :=
  respects_congr m h fun e he => ⟨fun _ => by rw [(hc e he).1], fun _ => by rw [(hc e he).2]⟩

/-- **right-language labelling**: the words accepted from node `q` of `build r n` when `K` is
    accepted after the fragment's final node -/
def NodeLang : Ast → Nat → (List Sym → Prop) → Nat → List Sym → Prop
  | .empty, _, K => fun _ => K
  | .sym s, n, K => fun q w => if q = n then ∃ a v, w = a :: v ∧ m s a ∧ K v else K w
  | .cat a b, n, K =>
    glue (build a n).next (NodeLang a n (LCat (Lang m b) K)) (NodeLang b (build a n).next K)
  | .alt a b, n, K => wrap n (LCat (Lang m (.alt a b)) K) K
      (glue (build a (n + 2)).next (NodeLang a (n + 2) K) (NodeLang b (build a (n + 2)).next K))
  | .star e, n, K =>
    wrap n (LCat (Lang m (.star e)) K) K (NodeLang e (n + 2) (LCat (Lang m (.star e)) K))

/-- every edge of `build r n` respects the labelling, the final node accepts `K`, and the start
    node accepts no more than `L(r) · K` -/
theorem build_labelling (r : Ast) : ∀ (n : Nat) (K : List Sym → Prop),
    Respects m (NodeLang m r n K) (build r n).edges ∧
      (∀ w, K w → NodeLang m r n K (build r n).final w) ∧
      (∀ w, NodeLang m r n K (build r n).start w → LCat (Lang m r) K w) := by
  induction r with
  | empty => exact fun n K => ⟨respects_nil m, fun _ h => h, fun _ h => .nil_left .empty h⟩
  | sym s =>
    intro n K
    refine ⟨?_, ?_, ?_⟩
    · intro e he
      cases List.mem_singleton.1 he
      exact fun a w hm hw => (if_pos rfl).mpr ⟨a, w, rfl, hm, (if_neg (show ¬ n + 1 = n by omega)).mp hw⟩
    · exact fun w hw => (if_neg (show ¬ n + 1 = n by omega)).mpr hw
    · exact fun w hw => let ⟨a, v, e, hm, hv⟩ := (if_pos rfl).mp hw; ⟨[a], v, e, .sym hm, hv⟩
  | cat a b iha ihb =>
    intro n K
    have ⟨rb, fb, sb⟩ := ihb (build a n).next K
    have ⟨ra, fa, sa⟩ := iha n (LCat (Lang m b) K)
    have ⟨hsa, hfa, hea⟩ := build_range a n
    have ⟨hsb, hfb, heb⟩ := build_range b (build a n).next
    unfold NodeLang
    refine ⟨?_, ?_, ?_⟩
    · simp only [build, respects_append, respects_cons_eps]
      refine ⟨⟨ra.congr_eq m fun e he => ?_, rb.congr_eq m fun e he => ?_⟩, fun w hw => ?_, respects_nil m⟩
      · exact ⟨glue_left (hea e he).1.2, glue_left (hea e he).2.2⟩
      · exact ⟨glue_right (heb e he).1.1, glue_right (heb e he).2.1⟩
      · rw [glue_left hfa.2]; rw [glue_right hsb.1] at hw
        exact fa w (sb w hw)
    · intro w hw; rw [show (build (.cat a b) n).final = (build b (build a n).next).final from rfl,
        glue_right hfb.1]; exact fb w hw
    · intro w hw; rw [show (build (.cat a b) n).start = (build a n).start from rfl, glue_left hsa.2] at hw
      exact LCat.assoc (fun _ _ => .cat) (sa w hw)
  | alt a b iha ihb =>
    intro n K
    have ⟨ra, fa, sa⟩ := iha (n + 2) K
    have ⟨rb, fb, sb⟩ := ihb (build a (n + 2)).next K
    have ⟨hsa, hfa, hea⟩ := build_range a (n + 2)
    have ⟨hsb, hfb, heb⟩ := build_range b (build a (n + 2)).next
    unfold InRange at *
    have hn : n + 2 ≤ (build a (n + 2)).next := Nat.le_of_lt (Nat.lt_of_le_of_lt hsa.1 hsa.2)
    unfold NodeLang
    refine ⟨?_, ?_, ?_⟩
    · simp only [build, respects_append, respects_cons_eps]
      refine ⟨⟨ra.congr_eq m fun e he => ?_, rb.congr_eq m fun e he => ?_⟩,
        fun w hw => ?_, fun w hw => ?_, fun w hw => ?_, fun w hw => ?_, respects_nil m⟩
      · have ⟨⟨s1, s2⟩, d1, d2⟩ := hea e he
        exact ⟨by rw [wrap_body s1, glue_left s2], by rw [wrap_body d1, glue_left d2]⟩
      · have ⟨⟨s1, _⟩, d1, _⟩ := heb e he
        exact ⟨by rw [wrap_body (Nat.le_trans hn s1), glue_right s1], by rw [wrap_body (Nat.le_trans hn d1), glue_right d1]⟩
      · rw [wrap_start]; rw [wrap_body hsa.1, glue_left hsa.2] at hw
        exact (sa w hw).mono_left fun _ => .altL
      · rw [wrap_start]; rw [wrap_body (Nat.le_trans hn hsb.1), glue_right hsb.1] at hw
        exact (sb w hw).mono_left fun _ => .altR
      · rw [wrap_final] at hw; rw [wrap_body hfa.1, glue_left hfa.2]; exact fa w hw
      · rw [wrap_final] at hw; rw [wrap_body (Nat.le_trans hn hfb.1), glue_right hfb.1]; exact fb w hw
    · exact fun w hw => by show wrap _ _ _ _ (n + 1) w; rwa [wrap_final]
    · exact fun w hw => by rwa [show (build _ n).start = n from rfl, wrap_start] at hw
  | star e ih =>
    intro n K
    have ⟨re, fe, se⟩ := ih (n + 2) (LCat (Lang m (.star e)) K)
    have ⟨hs, hf, hed⟩ := build_range e (n + 2)
    unfold InRange at *
    unfold NodeLang
    refine ⟨?_, ?_, ?_⟩
    · simp only [build, respects_append, respects_cons_eps]
      refine ⟨re.congr_eq m fun d hd => ⟨wrap_body (hed d hd).1.1, wrap_body (hed d hd).2.1⟩,
        fun w hw => ?_, fun w hw => ?_, fun w hw => ?_, fun w hw => ?_, respects_nil m⟩
      · rw [wrap_final] at hw; rw [wrap_start]; exact .nil_left .starNil hw
      · rw [wrap_body hs.1] at hw; rw [wrap_start]
        exact LCat.assoc (fun _ _ => .starCons) (se w hw)
      · rw [wrap_body hs.1] at hw; rw [wrap_body hf.1]
        exact fe w (LCat.assoc (fun _ _ => .starCons) (se w hw))
      · rw [wrap_final] at hw; rw [wrap_body hf.1]; exact fe w (.nil_left .starNil hw)
    · exact fun w hw => by show wrap _ _ _ _ (n + 1) w; rwa [wrap_final]
    · exact fun w hw => by rwa [show (build _ n).start = n from rfl, wrap_start] at hw

theorem build_sound (r : Ast) (n : Nat) (w : List Sym)
    (hp : Path m (build r n).edges (build r n).start w (build r n).final) : Lang m r w := by
  have ⟨hr, hf, hs⟩ := build_labelling m r n (· = [])
  obtain ⟨u, _, e, hu, rfl⟩ := hs _ (sound_of_respects m hr hp [] (hf [] rfl))
  rw [List.append_nil, List.append_nil] at e
  exact e ▸ hu

/-! ### trimness: every node of a fragment can reach its final node -/

theorem build_trim (hm : ∀ s : String, ∃ a : Sym, m s a) (r : Ast) : ∀ (n q : Nat),
    InRange n (build r n).next q → ∃ w, Path m (build r n).edges q w (build r n).final := by
  unfold InRange
  induction r with
  | empty => intro n q hq; cases (show q = n by simp only [build] at hq; omega); exact ⟨[], .nil _⟩
  | sym s =>
    intro n q hq
    obtain ⟨a, ha⟩ := hm s
    rcases (show q = n ∨ q = n + 1 by simp only [build] at hq; omega) with rfl | rfl
    · exact ⟨[a], .step (by simp [build]) ha (.nil _)⟩
    · exact ⟨[], .nil _⟩
  | cat a b iha ihb =>
    intro n q hq
    have ⟨_, _, _⟩ := build_range a n
    have ⟨hsb, _, _⟩ := build_range b (build a n).next
    unfold InRange at *
    by_cases h : q < (build a n).next
    · obtain ⟨wa, pa⟩ := iha n q ⟨hq.1, h⟩
      obtain ⟨wb, pb⟩ := ihb _ _ hsb
      exact ⟨wa ++ wb, ((pa.mono m (edges_cat_left a b n)).trans m
        (.eps (mem_cat_link a b n) (pb.mono m (edges_cat_right a b n))))⟩
    · obtain ⟨w, p⟩ := ihb (build a n).next q ⟨by omega, hq.2⟩
      exact ⟨w, p.mono m (edges_cat_right a b n)⟩
  | alt a b iha ihb =>
    intro n q hq
    have ⟨hsa, _, _⟩ := build_range a (n + 2)
    unfold InRange at *
    have hq : q = n ∨ q = n + 1 ∨ (n + 2 ≤ q ∧ q < (build a (n + 2)).next) ∨
        ((build a (n + 2)).next ≤ q ∧ q < (build b (build a (n + 2)).next).next) := by
      simp only [build] at hq; omega
    rcases hq with rfl | rfl | h | h
    · obtain ⟨w, p⟩ := iha _ _ hsa
      exact ⟨w, .eps (mem_alt_inL a b q) ((p.mono m (edges_alt_left a b q)).trans_eps m
        (.single_eps m (mem_alt_outL a b q)))⟩
    · exact ⟨[], .nil _⟩
    · obtain ⟨w, p⟩ := iha _ q h
      exact ⟨w, (p.mono m (edges_alt_left a b n)).trans_eps m (.single_eps m (mem_alt_outL a b n))⟩
    · obtain ⟨w, p⟩ := ihb _ q h
      exact ⟨w, (p.mono m (edges_alt_right a b n)).trans_eps m (.single_eps m (mem_alt_outR a b n))⟩
  | star e ih =>
    intro n q hq
    rcases (show q = n ∨ q = n + 1 ∨ (n + 2 ≤ q ∧ q < (build e (n + 2)).next) by
      simp only [build] at hq; omega) with rfl | rfl | h
    · exact ⟨[], .single_eps m (mem_star_skip e q)⟩
    · exact ⟨[], .nil _⟩
    · obtain ⟨w, p⟩ := ih _ q h
      exact ⟨w, (p.mono m (edges_star e n)).trans_eps m (.single_eps m (mem_star_exit e n))⟩

/-- the words that label a run from the start node are the prefixes of the language -/
theorem build_prefix (hm : ∀ s : String, ∃ a : Sym, m s a) (r : Ast) (n : Nat) (u : List Sym) :
    (∃ q, Path m (build r n).edges (build r n).start u q) ↔ ∃ v, Lang m r (u ++ v) := by
  constructor
  · rintro ⟨q, hp⟩
    have ⟨hs, _, he⟩ := build_range r n
    have hq : InRange n (build r n).next q := by
      rcases hp.end_eq_or_dst m with rfl | ⟨e, hmem, rfl⟩
      · exact hs
      · exact (he e hmem).2
    obtain ⟨v, hv⟩ := build_trim m hm r n q hq
    exact ⟨v, build_sound m r n _ (hp.trans m hv)⟩
  · rintro ⟨v, h⟩
    obtain ⟨q, hq, _⟩ := Path.split m u (build_complete m r _ h n)
    exact ⟨q, hq⟩

end Generic
end VC2.Proofs.SymRe
