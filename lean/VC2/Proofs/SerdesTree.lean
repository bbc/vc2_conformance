/- Tree-level deserialise-then-serialise for the serdes framework model (C06): whatever bits a
   (nested) description program deserialises, serialising the resulting description with the same
   program writes exactly the bits that were consumed and uses the description up. -/
import VC2.Proofs.Serdes
namespace VC2.Proofs.Serdes
open VC2 VC2.Model.Serdes

variable (C : Codec)

/-- none of the keys of `new` occurs in `d` -/
def Fresh (new d : Dict) : Prop := ∀ k, new.has k = true → d.has k = false

theorem fresh_symm {a b : Dict} (h : Fresh a b) : Fresh b a := fun k hk => by
  cases ha : a.has k
  · rfl
  · rw [h k ha] at hk; cases hk

theorem fresh_single {t : String} {v : Val} {d : Dict} : Fresh [(t, v)] d ↔ d.has t = false := by
  simp [Fresh]

theorem fresh_append_left {a b d : Dict} : Fresh (a ++ b) d ↔ Fresh a d ∧ Fresh b d := by
  simp only [Fresh, has_app, Bool.or_eq_true]
  exact ⟨fun h => ⟨fun k hk => h k (.inl hk), fun k hk => h k (.inr hk)⟩, fun h k hk => hk.elim (h.1 k) (h.2 k)⟩

theorem fresh_append_right {a b d : Dict} : Fresh a (b ++ d) ↔ Fresh a b ∧ Fresh a d := by
  simp only [Fresh, has_app, Bool.or_eq_false_iff]
  exact ⟨fun h => ⟨fun k hk => (h k hk).1, fun k hk => (h k hk).2⟩, fun h k hk => ⟨h.1 k hk, h.2 k hk⟩⟩

theorem get?_cons_self (t : String) (v : Val) (d : Dict) : Dict.get? ((t, v) :: d) t = some v := by
  simp [Dict.get?]

theorem fetch_cons_self (t : String) (v dflt : Val) (d acc : Dict) : fetch ((t, v) :: d) acc t dflt = some v := by
  simp [fetch, get?_cons_self]

theorem erase_cons_self {t : String} {d : Dict} (v : Val) (h : d.has t = false) : Dict.erase ((t, v) :: d) t = d := by
  simp only [Dict.erase, List.filter_cons, bne_self_eq_false, Bool.false_eq_true, if_false, List.filter_eq_self]
  intro x hx
  have := (List.any_eq_false.1 h) x hx
  simpa using this

/-- one primitive, read backwards: the code of the value read is what was there — inside a block
    possibly cut off by the block end, the missing bits being 1s -/
theorem decPrim_complete {k : Prim} (hC : CompleteAt C k) {blk : Bool} {real : List Bool} {v : Leaf} {rest : List Bool}
    (h : decPrim C blk k real = some (v, rest)) : ∃ used, C.enc k v = some used ∧ RealOf blk used real rest := by
  unfold decPrim at h
  cases blk
  · exact hC real v rest h
  · simp only [if_true] at h
    split at h <;> cases h
    rename_i rest' hd
    obtain ⟨used, he, hb⟩ := hC _ v rest' hd
    refine ⟨used, he, realOf_true.2 ?_⟩
    rcases List.append_eq_append_iff.1 hb with ⟨a, rfl, h2⟩ | ⟨c, rfl, rfl⟩
    · -- the code runs past the end: used = real ++ a, and the lent 1-bits are a ++ rest'
      have hl := congrArg List.length h2
      have ha : (a ++ rest').all id = true := by rw [← h2]; simp
      simp only [List.length_replicate, List.length_append] at hl
      exact .inr ⟨by simp; omega, a, rfl, ((all_id_append _ _).1 ha).1⟩
    · -- the code lies inside the block
      exact .inl (by simp)

/-- deserialise-then-serialise for a sequence of primitive reads (a list target, or any straight
    run of fields): the serialiser reproduces exactly the bits the deserialiser consumed -/
theorem desPrims_ser (blk : Bool) : ∀ (ks : List Prim) (bits : List Bool) (vs : List Val) (rest : List Bool),
    (∀ k ∈ ks, CompleteAt C k) → desPrims C blk ks bits = some (vs, rest) →
    ∃ used, serPrims C ks vs = some used ∧ RealOf blk used bits rest
  | [], bits, vs, rest, _, h => by
    cases h
    exact ⟨[], rfl, realOf_whole blk [] bits⟩
  | k :: ks, bits, vs, rest, hc, h => by
    unfold desPrims at h
    split at h
    · rename_i v r1 hd
      split at h <;> cases h
      rename_i vs' hr
      obtain ⟨u1, he, hb⟩ := decPrim_complete C (hc k List.mem_cons_self) hd
      obtain ⟨u2, hs, hb2⟩ := desPrims_ser blk ks r1 vs' rest (fun x hx => hc x (List.mem_cons_of_mem _ hx)) hr
      exact ⟨u1 ++ u2, by simp only [serPrims, he, hs], realOf_join blk u1 u2 bits r1 rest hb hb2⟩
    · cases h

/-- `(used ++ rest).length - rest.length = used.length` -/
theorem len_sub' (b rest : List Bool) : (b ++ rest).length - rest.length = b.length := len_sub b rest

/-- a body deserialised into an empty context: serialising the result uses it up -/
theorem whole_body {blk : Bool} {pos : Nat} {body : List Stmt} {bits rest : List Bool} {d' : Dict}
    (h : ∃ new used, d' = [] ++ new ∧ RealOf blk used bits rest ∧ Fresh new [] ∧
      ∀ d, Fresh new d → serBody C blk pos body (new ++ d) [] = some (used, [] ++ new, d)) :
    ∃ used, RealOf blk used bits rest ∧ serBody C blk pos body d' [] = some (used, d', []) := by
  obtain ⟨new, used, rfl, hb, -, hs⟩ := h
  exact ⟨used, hb, by simpa using hs [] (disj_nil _)⟩

mutual
theorem desStmt_ser (hC : ∀ k, CompleteAt C k) : ∀ (s : Stmt) (blk : Bool) (pos : Nat) (acc : Dict) (bits : List Bool) (acc' : Dict)
    (rest : List Bool), desStmt C blk pos s acc bits = some (acc', rest) →
    ∃ new used, acc' = acc ++ new ∧ RealOf blk used bits rest ∧ Fresh new acc ∧
      ∀ d, Fresh new d → serStmt C blk pos s (new ++ d) acc = some (used, acc ++ new, d)
  | .prim t k, blk, pos, acc, bits, acc', rest, h => by
    unfold desStmt at h
    split at h
    · cases h
    · rename_i hacc
      split at h <;> cases h
      rename_i v hd
      obtain ⟨used, he, hb⟩ := decPrim_complete C (hC k) hd
      refine ⟨[(t, .leaf v)], used, rfl, hb, fresh_single.2 (eq_false_of_ne_true hacc), fun d hf => ?_⟩
      simp only [serStmt, List.singleton_append, get?_cons_self, he, erase_cons_self _ (fresh_single.1 hf)]
  | .primList t ks, blk, pos, acc, bits, acc', rest, h => by
    unfold desStmt at h
    split at h
    · cases h
    · rename_i hacc
      split at h <;> cases h
      rename_i vs hd
      obtain ⟨used, he, hb⟩ := desPrims_ser C blk ks bits vs rest (fun k _ => hC k) hd
      refine ⟨[(t, .list vs)], used, rfl, hb, fresh_single.2 (eq_false_of_ne_true hacc), fun d hf => ?_⟩
      simp only [serStmt, List.singleton_append, fetch_cons_self, he, erase_cons_self _ (fresh_single.1 hf)]
  | .sub t body, blk, pos, acc, bits, acc', rest, h => by
    unfold desStmt at h
    split at h
    · cases h
    · rename_i hacc
      split at h <;> cases h
      rename_i d' hd
      obtain ⟨used, hb, hs⟩ := whole_body C (desBody_ser hC body blk pos [] bits d' rest hd)
      refine ⟨[(t, .dict d')], used, rfl, hb, fresh_single.2 (eq_false_of_ne_true hacc), fun d hf => ?_⟩
      simp only [serStmt, List.singleton_append, fetch_cons_self, hs, erase_cons_self _ (fresh_single.1 hf)]
  | .subList t bodies, blk, pos, acc, bits, acc', rest, h => by
    unfold desStmt at h
    split at h
    · cases h
    · rename_i hacc
      split at h <;> cases h
      rename_i vs hd
      obtain ⟨used, hb, hs⟩ := desBodies_ser hC bodies blk pos bits vs rest hd
      refine ⟨[(t, .list vs)], used, rfl, hb, fresh_single.2 (eq_false_of_ne_true hacc), fun d hf => ?_⟩
      simp only [serStmt, List.singleton_append, fetch_cons_self, hs, erase_cons_self _ (fresh_single.1 hf)]
  | .block t len body, true, pos, acc, bits, acc', rest, h => by unfold desStmt at h; cases h
  | .block t len body, false, pos, acc, bits, acc', rest, h => by
    unfold desStmt at h
    split at h
    · cases h
    · rename_i hlen
      split at h
      · rename_i acc1 left hd
        split at h <;> cases h
        rename_i hacc1
        obtain ⟨newB, usedB, rfl, hb, hfr, hser⟩ := desBody_ser hC body true pos acc (bits.take len) acc1 left hd
        -- the two shapes of a block (contents inside it, or cut off by its end) are one window
        obtain ⟨hs1, hs2, hs3⟩ := (cut_window _ _ _).1 hb
        rw [List.length_take_of_le (Nat.le_of_not_lt hlen)] at hs1 hs2 hs3
        have hacc1 := eq_false_of_ne_true hacc1
        simp only [has_app, Bool.or_eq_false_iff] at hacc1
        refine ⟨newB ++ [(t, .leaf (.bits left))], usedB.take len ++ left, List.append_assoc .., ?_,
          fresh_append_left.2 ⟨hfr, fresh_single.2 hacc1.1⟩, fun d hf => ?_⟩
        · rw [realOf_false, hs3, List.take_append_drop]
        · rw [fresh_append_left, fresh_single] at hf
          have hfB : Fresh newB ((t, .leaf (.bits left)) :: d) :=
            fresh_append_right (b := [(t, .leaf (.bits left))]).2 ⟨fresh_symm (fresh_single.2 hacc1.2), hf.1⟩
          simp only [serStmt, List.append_assoc, hser _ hfB, hs1, if_true, List.singleton_append, get?_cons_self, hs2,
            erase_cons_self _ hf.2]
      · cases h
  | .align t, true, pos, acc, bits, acc', rest, h => by unfold desStmt at h; cases h
  | .align t, false, pos, acc, bits, acc', rest, h => by
    unfold desStmt at h
    split at h
    · cases h
    · rename_i hacc
      split at h <;> cases h
      rename_i hlen
      refine ⟨[(t, .leaf (.bits (bits.take (alignBits pos))))], bits.take (alignBits pos), rfl,
        (List.take_append_drop _ _).symm, fresh_single.2 (eq_false_of_ne_true hacc), fun d hf => ?_⟩
      simp only [serStmt, List.singleton_append, get?_cons_self, List.length_take_of_le (Nat.le_of_not_lt hlen), if_true,
        erase_cons_self _ (fresh_single.1 hf)]
  | .computed t v, blk, pos, acc, bits, acc', rest, h => by
    unfold desStmt at h
    split at h <;> cases h
    rename_i hacc
    refine ⟨[(t, .leaf (.int v))], [], rfl, realOf_whole blk [] bits, fresh_single.2 (eq_false_of_ne_true hacc), fun d hf => ?_⟩
    simp only [serStmt, eq_false_of_ne_true hacc, Bool.false_eq_true, if_false, List.singleton_append,
      erase_cons_self _ (fresh_single.1 hf)]
theorem desBody_ser (hC : ∀ k, CompleteAt C k) : ∀ (body : List Stmt) (blk : Bool) (pos : Nat) (acc : Dict) (bits : List Bool) (acc' : Dict)
    (rest : List Bool), desBody C blk pos body acc bits = some (acc', rest) →
    ∃ new used, acc' = acc ++ new ∧ RealOf blk used bits rest ∧ Fresh new acc ∧
      ∀ d, Fresh new d → serBody C blk pos body (new ++ d) acc = some (used, acc ++ new, d)
  | [], blk, pos, acc, bits, acc', rest, h => by
    cases h
    exact ⟨[], [], (List.append_nil _).symm, realOf_whole blk [] bits, fun _ hk => by simp at hk,
      fun d _ => by simp [serBody]⟩
  | s :: ss, blk, pos, acc, bits, acc', rest, h => by
    unfold desBody at h
    split at h
    · rename_i acc1 bits1 h1
      obtain ⟨new1, used1, rfl, hb1, hf1, hs1⟩ := desStmt_ser hC s blk pos acc bits acc1 bits1 h1
      rw [pos_eq blk pos used1 bits bits1 hb1] at h
      obtain ⟨new2, used2, rfl, hb2, hf2, hs2⟩ := desBody_ser hC ss blk _ (acc ++ new1) bits1 acc' rest h
      rw [fresh_append_right] at hf2
      refine ⟨new1 ++ new2, used1 ++ used2, List.append_assoc .., realOf_join blk _ _ _ _ _ hb1 hb2,
        fresh_append_left.2 ⟨hf1, hf2.1⟩, fun d hf => ?_⟩
      rw [fresh_append_left] at hf
      simp only [serBody, List.append_assoc, hs1 _ (fresh_append_right.2 ⟨fresh_symm hf2.2, hf.1⟩), hs2 _ hf.2]
    · cases h
theorem desBodies_ser (hC : ∀ k, CompleteAt C k) : ∀ (bodies : List (List Stmt)) (blk : Bool) (pos : Nat) (bits : List Bool) (vs : List Val)
    (rest : List Bool), desBodies C blk pos bodies bits = some (vs, rest) →
    ∃ used, RealOf blk used bits rest ∧ serBodies C blk pos bodies vs = some (used, vs)
  | [], blk, pos, bits, vs, rest, h => by
    cases h
    exact ⟨[], realOf_whole blk [] bits, by simp [serBodies]⟩
  | body :: bodies, blk, pos, bits, vs, rest, h => by
    unfold desBodies at h
    split at h
    · rename_i d' bits1 h1
      obtain ⟨used1, hb1, hs1⟩ := whole_body C (desBody_ser hC body blk pos [] bits d' bits1 h1)
      rw [pos_eq blk pos used1 bits bits1 hb1] at h
      split at h <;> cases h
      rename_i vs' h2
      obtain ⟨used2, hb2, hs2⟩ := desBodies_ser hC bodies blk _ bits1 vs' rest h2
      exact ⟨used1 ++ used2, realOf_join blk used1 used2 bits bits1 rest hb1 hb2, by simp only [serBodies, hs1, hs2]⟩
    · cases h
end

end VC2.Proofs.Serdes
