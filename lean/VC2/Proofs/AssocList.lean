/-
  Python's `d[k] = v` on an insertion-ordered association list.  The model writes it out three times
  (`Constraint.Assign.set`, `FixedDict.rawSet`, `CodecCsv.Column.set`); what the proofs need of it is here.
-/
namespace VC2.Proofs.AssocList

/-- assigning a key that is not present appends it; stated for the situation in which the callers meet
    it: the key is the next one of a key list without repetition -/
theorem set_fresh {κ ν : Type} [BEq κ] [LawfulBEq κ] (pre : List (κ × ν)) (k : κ) (v : ν) (rest : List (κ × ν))
    (hnd : ((pre ++ (k, v) :: rest).map (·.1)).Nodup) :
    (if pre.any (·.1 == k) then pre.map (fun kv => if kv.1 == k then (k, v) else kv) else pre ++ [(k, v)]) =
      pre ++ [(k, v)] := by
  have : pre.any (fun kv => kv.1 == k) = false := by
    simp only [List.any_eq_false, beq_iff_eq]
    intro kv hkv heq
    rw [List.map_append, List.nodup_append] at hnd
    exact hnd.2.2 kv.1 (List.mem_map_of_mem hkv) k (by simp) heq
  simp [this]

end VC2.Proofs.AssocList
