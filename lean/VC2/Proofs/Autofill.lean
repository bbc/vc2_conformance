/- Helper lemmas for C07 (automatic field filling).  Core Lean only.
   Each pass is a map over the units that threads a state; for each there is one statement saying what stands at
   position `i` of the result (`numberFrom_getElem`, `versionFill_getElem`, `offsetsFrom_getElem`), and what is
   kept, what is filled and the lengths are read off from those. -/
import VC2.Model.Autofill
namespace VC2.Proofs.Autofill
open VC2 VC2.Model.Autofill


/-! picture numbers -/
theorem numberFrom_length : ∀ (us : List AUnit) (last : Nat), (numberFrom last us).length = us.length := by
  intro us; induction us with
  | nil => intro _; rfl
  | cons u us ih => intro last; exact congrArg (· + 1) (ih _)

theorem numberFrom_getElem : ∀ (us : List AUnit) (last i : Nat) (hi : i < us.length),
    ∃ l, (numberFrom last us)[i]'(by rw [numberFrom_length]; exact hi) = (numberStep l us[i]).1 := by
  intro us; induction us with
  | nil => intro _ _ hi; cases hi
  | cons u us ih =>
    intro last i hi
    cases i with
    | zero => exact ⟨last, rfl⟩
    | succ i => exact ih _ i (Nat.lt_of_succ_lt_succ hi)

/-- the step writes `picNum` and nothing else, and an explicit number is kept -/
theorem numberStep_fst (last : Nat) (u : AUnit) :
    ∃ p, (numberStep last u).1 = { u with picNum := p } ∧ ∀ n, u.picNum = some n → p = some n := by
  unfold numberStep
  cases isPictureCode u.code || isFragmentCode u.code
  · exact ⟨_, rfl, fun _ hn => hn⟩
  · exact ⟨_, rfl, fun n hn => by rw [hn]⟩

/-- an AUTO number: previous + 1 (mod 2^32) for a picture or a first fragment, the previous number
    for a continuation fragment -/
theorem numberStep_auto (last : Nat) (u : AUnit) (hp : u.picNum = none)
    (hk : (isPictureCode u.code || isFragmentCode u.code) = true) :
    (numberStep last u).1.picNum =
      some (if (isPictureCode u.code || u.sliceCount.getD VC2.Gen.default_fragment_slice_count == 0) = true then (last + 1) % M32 else last) ∧
    (numberStep last u).2 =
      (if (isPictureCode u.code || u.sliceCount.getD VC2.Gen.default_fragment_slice_count == 0) = true then (last + 1) % M32 else last) := by
  unfold numberStep
  rw [if_pos hk, hp]
  exact ⟨rfl, rfl⟩

theorem numberStep_other (last : Nat) (u : AUnit)
    (hk : (isPictureCode u.code || isFragmentCode u.code) = false) : numberStep last u = (u, last) := by
  unfold numberStep; rw [hk]; rfl

theorem numberStep_explicit (last : Nat) (u : AUnit) (n : Nat) (hp : u.picNum = some n)
    (hk : (isPictureCode u.code || isFragmentCode u.code) = true) : (numberStep last u).2 = n := by
  unfold numberStep; rw [if_pos hk, hp]

/-- closed form: `k` consecutive AUTO pictures after `last` are numbered last+1, last+2, … mod 2^32 -/
theorem auto_run : ∀ (us : List AUnit) (last : Nat),
    (∀ u ∈ us, isPictureCode u.code = true ∧ u.picNum = none) →
    ∀ j (hj : j < us.length), ((numberFrom last us)[j]'(by rw [numberFrom_length]; exact hj)).picNum
      = some ((last + j + 1) % M32) := by
  intro us
  induction us with
  | nil => intro _ _ j hj; cases hj
  | cons u us ih =>
    intro last h j hj
    have hu := h u List.mem_cons_self
    have hs : (numberStep last u).1.picNum = some ((last + 1) % M32) ∧ (numberStep last u).2 = (last + 1) % M32 := by
      have := numberStep_auto last u hu.2 (by rw [hu.1]; rfl)
      rw [hu.1] at this; exact this
    cases j with
    | zero => exact hs.1
    | succ j =>
      refine (ih (numberStep last u).2 (fun x hx => h x (List.mem_cons_of_mem _ hx)) j (Nat.lt_of_succ_lt_succ hj)).trans ?_
      rw [hs.2, Nat.add_assoc _ j 1, Nat.mod_add_mod, Nat.add_right_comm last 1 (j + 1)]

/-! major version -/
theorem pymax_ge_left (a b : Int) : a ≤ pymax a b := le_pymax_left a b
theorem pymax_ge_right (a b : Int) : b ≤ pymax a b := le_pymax_right a b

theorem foldl_max_ge : ∀ (us : List AUnit) (v : Int),
    v ≤ us.foldl (fun v u => pymax v (unitVersion u)) v ∧
    ∀ u ∈ us, unitVersion u ≤ us.foldl (fun v u => pymax v (unitVersion u)) v := by
  intro us
  induction us with
  | nil => intro v; simp
  | cons u us ih =>
    intro v
    have := ih (pymax v (unitVersion u))
    simp only [List.foldl_cons, List.mem_cons, forall_eq_or_imp]
    refine ⟨Int.le_trans (pymax_ge_left _ _) this.1, Int.le_trans (pymax_ge_right _ _) this.1, this.2⟩

theorem foldl_max_attained : ∀ (us : List AUnit) (v : Int),
    us.foldl (fun v u => pymax v (unitVersion u)) v = v ∨
    ∃ u ∈ us, us.foldl (fun v u => pymax v (unitVersion u)) v = unitVersion u := by
  intro us
  induction us with
  | nil => intro v; simp
  | cons u us ih =>
    intro v
    simp only [List.foldl_cons]
    rcases ih (pymax v (unitVersion u)) with h | ⟨w, hw, h⟩
    · rcases pymax_cases v (unitVersion u) with h2 | h2
      · left; rw [h, h2]
      · right; exact ⟨u, List.mem_cons_self, by rw [h, h2]⟩
    · right; exact ⟨w, List.mem_cons_of_mem _ hw, h⟩

theorem versionFill_length (mv : Int) : ∀ (us : List AUnit) (a : Bool), (versionFill mv a us).length = us.length := by
  intro us; induction us with
  | nil => intro _; rfl
  | cons u us ih => intro a; exact congrArg (· + 1) (ih _)

theorem versionFill_getElem (mv : Int) : ∀ (us : List AUnit) (a : Bool) (i : Nat) (hi : i < us.length),
    ∃ a', (versionFill mv a us)[i]'(by rw [versionFill_length]; exact hi) = (versionStep mv a' us[i]).1 := by
  intro us; induction us with
  | nil => intro _ _ hi; cases hi
  | cons u us ih =>
    intro a i hi
    cases i with
    | zero => exact ⟨a, rfl⟩
    | succ i => exact ih _ i (Nat.lt_of_succ_lt_succ hi)

/-- what the second pass may change in a unit: only the AUTO major_version of a sequence header
    (set to `mv`) and the extended transform parameters of a picture -/
def VersionRel (mv : Int) (u v : AUnit) : Prop :=
  v.code = u.code ∧ v.next = u.next ∧ v.prev = u.prev ∧ v.len = u.len ∧ v.dataLen = u.dataLen ∧
  v.picNum = u.picNum ∧ v.sliceCount = u.sliceCount ∧
  (u.code = 0 → ∀ h, u.hdr = some h →
    ∃ h', v.hdr = some h' ∧ h'.majorVersion = some (h.majorVersion.getD mv.toNat) ∧
      { h' with majorVersion := h.majorVersion } = h)

theorem versionStep_spec (mv : Int) (a : Bool) (u : AUnit) : VersionRel mv u (versionStep mv a u).1 := by
  -- the step rewrites at most `hdr` and `tp`, so only the clause about the header is ever left to show
  have rel : ∀ hd t, (u.code = 0 → ∀ h, u.hdr = some h →
      ∃ h', hd = some h' ∧ h'.majorVersion = some (h.majorVersion.getD mv.toNat) ∧
        { h' with majorVersion := h.majorVersion } = h) → VersionRel mv u { u with hdr := hd, tp := t } :=
    fun _ _ hk => ⟨rfl, rfl, rfl, rfl, rfl, rfl, rfl, hk⟩
  unfold versionStep
  by_cases hc : (u.code == 0) = true
  · rw [if_pos hc]
    cases hh : u.hdr with
    | none => exact rel _ _ fun _ h e => by rw [hh] at e; cases e
    | some h =>
      dsimp only
      cases hm : h.majorVersion with
      | some x => exact rel _ _ fun _ h' e => by cases hh.symm.trans e; exact ⟨h, hh, by rw [hm]; rfl, rfl⟩
      | none => exact rel _ _ fun _ h' e => by cases hh.symm.trans e; exact ⟨_, rfl, by rw [hm]; rfl, rfl⟩
  · rw [if_neg hc]
    cases hasTP u && a && decide (mv < 3) <;> exact rel _ _ fun e => absurd (beq_iff_eq.2 e) hc

theorem versionFill_spec (mv : Int) (us : List AUnit) (a : Bool) (i : Nat) (hi : i < us.length) :
    VersionRel mv us[i] ((versionFill mv a us)[i]'(by rw [versionFill_length]; exact hi)) := by
  obtain ⟨a', e⟩ := versionFill_getElem mv us a i hi
  rw [e]; exact versionStep_spec mv a' _

/-- a transform whose version implication is below 3 uses no extended transform feature: removing
    its extended transform parameters changes nothing that is decoded -/
theorem tpVersion_lt3 (t : TP) (h : tpVersion t < 3) :
    t.who = t.w ∧ t.dho = 0 := by
  unfold tpVersion VC2.Gen.wavelet_transform_version_implication at h
  by_cases h0 : (t.dho : Int) = 0
  · by_cases h1 : (t.w : Int) = t.who
    · exact ⟨(Int.ofNat_inj.1 h1).symm, Int.ofNat_inj.1 h0⟩
    · rw [if_neg (not_not_intro h0), if_pos h1] at h; exact absurd h (by decide)
  · rw [if_pos h0] at h; exact absurd h (by decide)

/-! offsets -/
theorem offsetsFrom_length : ∀ (us : List AUnit) (p : Option Nat), (offsetsFrom p us).length = us.length := by
  intro us; induction us with
  | nil => intro _; rfl
  | cons u us ih => intro p; exact congrArg (· + 1) (ih _)

def prevLenAt (p : Option Nat) (us : List AUnit) (i : Nat) : Option Nat :=
  match i with
  | 0 => p
  | i + 1 => (us[i]?).map (·.len)

/-- the unit at position `i` after the offsets pass, in closed form -/
theorem offsetsFrom_getElem : ∀ (us : List AUnit) (p : Option Nat) (i : Nat) (hi : i < us.length),
    (offsetsFrom p us)[i]'(by rw [offsetsFrom_length]; exact hi) =
      { us[i] with
        next := some (match us[i].next with
          | some n => n
          | none => if us[i].code == 0x20 || us[i].code == 0x30 then 13 + us[i].dataLen
                    else if i + 1 = us.length then 0 else us[i].len)
        prev := some (match us[i].prev with
          | some q => q
          | none => (prevLenAt p us i).getD 0) } := by
  intro us
  induction us with
  | nil => intro _ i hi; cases hi
  | cons u us ih =>
    intro p i hi
    cases i with
    | zero => cases us <;> rfl
    | succ i =>
      refine (ih (some u.len) i (Nat.lt_of_succ_lt_succ hi)).trans ?_
      -- seen from `u :: us` the position is one further on, and the unit before it is `(u :: us)[i]`
      have hp : prevLenAt (some u.len) us i = prevLenAt p (u :: us) (i + 1) := by cases i <;> rfl
      simp only [List.getElem_cons_succ, List.length_cons, Nat.add_right_cancel_iff, hp]

theorem offsets_spec (us : List AUnit) (p : Option Nat) (i : Nat) (hi : i < us.length) :
    ((offsetsFrom p us)[i]'(by rw [offsetsFrom_length]; exact hi)).next = some (match us[i].next with
      | some n => n
      | none => if us[i].code == 0x20 || us[i].code == 0x30 then 13 + us[i].dataLen
                else if i + 1 = us.length then 0 else us[i].len) ∧
    ((offsetsFrom p us)[i]'(by rw [offsetsFrom_length]; exact hi)).prev = some (match us[i].prev with
      | some q => q
      | none => (prevLenAt p us i).getD 0) ∧
    { (offsetsFrom p us)[i]'(by rw [offsetsFrom_length]; exact hi) with next := us[i].next, prev := us[i].prev } = us[i] := by
  rw [offsetsFrom_getElem us p i hi]
  exact ⟨rfl, rfl, rfl⟩

theorem autofillSeq_length (seq : List AUnit) : (autofillSeq seq).length = seq.length := by
  unfold autofillSeq autofillOffsets autofillMajorVersion autofillPictureNumbers
  rw [offsetsFrom_length, versionFill_length, numberFrom_length]

/-- every explicitly supplied value survives the three passes -/
theorem autofillSeq_preserves (seq : List AUnit) (i : Nat) (hi : i < seq.length) :
    let v := (autofillSeq seq)[i]'(by rw [autofillSeq_length]; exact hi)
    let u := seq[i]
    v.code = u.code ∧ v.len = u.len ∧ v.dataLen = u.dataLen ∧ v.sliceCount = u.sliceCount ∧
    (∀ n, u.picNum = some n → v.picNum = some n) ∧
    (∀ n, u.next = some n → v.next = some n) ∧
    (∀ n, u.prev = some n → v.prev = some n) ∧
    (u.code = 0 → ∀ h n, u.hdr = some h → h.majorVersion = some n →
      ∃ h', v.hdr = some h' ∧ h'.majorVersion = some n ∧ { h' with majorVersion := h.majorVersion } = h) := by
  have hl₁ : i < (autofillPictureNumbers seq).length := by rw [autofillPictureNumbers, numberFrom_length]; exact hi
  have hl₂ : i < (autofillMajorVersion (autofillPictureNumbers seq)).length := by
    rw [autofillMajorVersion, versionFill_length]; exact hl₁
  -- position `i` after each pass: numbering gives `{ u with picNum := p }` (e₁), the version pass is a `VersionRel`
  -- from that (h₂), the offsets pass writes `next` and `prev` of what the version pass left (e₃)
  obtain ⟨l, e₁⟩ := numberFrom_getElem seq (M32 - 1) i hi
  obtain ⟨p, e₁', hp⟩ := numberStep_fst l seq[i]
  have e₁ : (autofillPictureNumbers seq)[i] = _ := e₁.trans e₁'
  have h₂ : VersionRel _ (autofillPictureNumbers seq)[i] ((autofillMajorVersion (autofillPictureNumbers seq))[i]'hl₂) :=
    versionFill_spec _ _ false i hl₁
  have e₃ : (autofillSeq seq)[i]'(by rw [autofillSeq_length]; exact hi) = _ :=
    offsetsFrom_getElem (autofillMajorVersion (autofillPictureNumbers seq)) none i hl₂
  dsimp only
  rw [e₃]
  rw [e₁] at h₂
  obtain ⟨hcode, hnext, hprev, hlen, hdata, hpic, hslice, hhdr⟩ := h₂
  refine ⟨hcode, hlen, hdata, hslice, fun n hn => hpic.trans (hp n hn), fun n hn => ?_, fun n hn => ?_, fun hc h n hh hm => ?_⟩
  · simp only [hnext, hn]
  · simp only [hprev, hn]
  · obtain ⟨h', a₁, a₂, a₃⟩ := hhdr hc h hh
    exact ⟨h', a₁, by rw [a₂, hm]; rfl, a₃⟩

end VC2.Proofs.Autofill
