/- Helper lemmas and the domain predicate for C28 (codec-features CSV reading).  Core Lean only. -/
import VC2.Model.CodecCsv
namespace VC2.Proofs.CodecCsv
open VC2 VC2.Model.CodecCsv


/-- `m` does not crash, and what it returns satisfies `Q`: the form in which C28 holds of every stage
    of the reader -/
def Sat {α : Type} (m : M α) (Q : α → Prop) : Prop :=
  match m with
  | .ok x => Q x
  | .error (.invalid _) => True
  | .error (.crash _) => False

theorem Sat.of_ok {α : Type} {m : M α} {Q : α → Prop} {x : α} (h : Sat m Q) (hm : m = .ok x) : Q x := by
  subst hm; exact h

theorem Sat.ne_crash {α : Type} {m : M α} {Q : α → Prop} (h : Sat m Q) (w : String) : m ≠ .error (.crash w) := by
  rintro rfl; exact h

/-- an error passed on unchanged keeps its kind -/
theorem Sat.error {α β : Type} {e : Err} {P : α → Prop} {Q : β → Prop} (h : Sat (.error e : M α) P) :
    Sat (.error e : M β) Q := by
  cases e with
  | invalid _ => trivial
  | crash _ => exact h

theorem Sat.mono {α : Type} {m : M α} {P Q : α → Prop} (h : Sat m P) (hPQ : ∀ x, P x → Q x) : Sat m Q := by
  match m, h with
  | .ok x, h => exact hPQ x h
  | .error (.invalid _), _ => trivial

theorem Sat.bind {α β : Type} {m : M α} {f : α → M β} {P : α → Prop} {Q : β → Prop}
    (h : Sat m P) (hf : ∀ x, P x → Sat (f x) Q) : Sat (m >>= f) Q := by
  match m, h with
  | .ok x, h => exact hf x h
  | .error (.invalid _), _ => trivial

/-- a popped value was produced by the parser or is the default -/
theorem pop_sat {α : Type} (col : Column) (field : String) (parser : String → P α) (dflt : Option α) :
    Sat (pop col field parser dflt) fun r => (∃ s, parser s = some r.1) ∨ dflt = some r.1 := by
  unfold pop
  cases col.get? field with
  | none => trivial
  | some value =>
    have parsed : Sat (match parser value with
        | some v => Except.ok (v, col.erase field)
        | none => .error (.invalid ("invalid " ++ field))) fun r => (∃ s, parser s = some r.1) ∨ dflt = some r.1 := by
      cases hp : parser value with
      | none => trivial
      | some v => exact Or.inl ⟨value, hp⟩
    cases dflt with
    | none => exact parsed
    | some d =>
      dsimp only
      split
      · exact Or.inr rfl
      · exact parsed

theorem parseIntAtLeast_ge (m : Int) (s : String) (v : Int) (h : parseIntAtLeast m s = some v) : m ≤ v := by
  unfold parseIntAtLeast at h
  cases hp : pyInt s with
  | none => rw [hp] at h; cases h
  | some x =>
    rw [hp] at h; simp only at h
    split at h
    · cases h
    · simp at h; omega

def IsMember (enum : String) (v : Int) : Prop := (members enum).any (·.2 == v) = true

theorem parseIntEnum_member (e s : String) (v : Int) (h : parseIntEnum e s = some v) : IsMember e v := by
  unfold parseIntEnum at h
  simp only at h
  split at h
  · split at h
    · simp at h; rename_i hm; rw [← h]; exact hm
    · cases h
  · cases h

theorem takeInts_length : ∀ (n : Nat) (ts : List String) (vs : List Int) (rest : List String),
    takeInts n ts = some (vs, rest) → vs.length = n := by
  intro n
  induction n with
  | zero => intro ts vs rest h; simp [takeInts] at h; rw [h.1]; rfl
  | succ n ih =>
    intro ts vs rest h
    cases ts with
    | nil => simp [takeInts] at h
    | cons t ts =>
      simp only [takeInts] at h
      cases hp : pyInt t with
      | none => rw [hp] at h; simp at h
      | some v =>
        rw [hp] at h
        cases ht : takeInts n ts with
        | none => rw [ht] at h; simp at h
        | some r =>
          obtain ⟨vs', rest'⟩ := r
          rw [ht] at h; simp at h
          rw [← h.1]; simp [ih ts vs' rest' ht]

theorem parseQuantMatrix_length (d dh : Int) (s : String) (m : List Int)
    (h : parseQuantMatrix d dh s = some m) : m.length = qmLength d dh := by
  unfold parseQuantMatrix at h
  split at h
  · rename_i vs heq; simp at h; rw [← h]; exact takeInts_length _ _ _ _ heq
  · cases h

def kindOk : VpKind → Int → Bool
  | .min m, v => decide (m ≤ v)
  | .enum e, v => (members e).any (·.2 == v)
  | .bool, v => v == 0 || v == 1

def vpOk : List (String × VpKind) → List Int → Bool
  | [], [] => true
  | (_, k) :: fs, v :: vs => kindOk k v && vpOk fs vs
  | _, _ => false

theorem vpParser_ok (k : VpKind) (s : String) (v : Int) (h : vpParser k s = some v) : kindOk k v = true := by
  cases k with
  | min m => simp only [vpParser] at h; simp [kindOk, parseIntAtLeast_ge m s v h]
  | «enum» e => simp only [vpParser] at h; exact parseIntEnum_member e s v h
  | bool =>
    simp only [vpParser] at h
    cases hb : parseBool s with
    | none => rw [hb] at h; cases h
    | some b => rw [hb] at h; cases b <;> simp at h <;> simp [kindOk, ← h]

theorem popVp_sat : ∀ (fs : List (String × VpKind)) (ds : List Int) (col : Column),
    vpOk fs ds = true → Sat (popVp fs ds col) fun r => vpOk fs r.1 = true
  | [], _, _, _ => rfl
  | _ :: _, [], _, hd => by simp [vpOk] at hd
  | (fname, k) :: fs, d :: ds, col, hd => by
    simp only [vpOk, Bool.and_eq_true] at hd
    refine (pop_sat col fname (vpParser k) (some d)).bind fun r hr => ?_
    refine (popVp_sat fs ds r.2 hd.2).bind fun rs hrs => ?_
    have : kindOk k r.1 = true := by
      rcases hr with ⟨s, hs⟩ | hdf
      · exact vpParser_ok k s r.1 hs
      · cases hdf; exact hd.1
    simp only [Sat, pure, Except.pure, vpOk, this, hrs, Bool.and_self]

/-- the documented domain of one configuration -/
structure InDomain (f : Features) : Prop where
  level : IsMember "Levels" f.level
  profile : IsMember "Profiles" f.profile
  pcm : IsMember "PictureCodingModes" f.pcm
  wavelet : IsMember "WaveletFilters" f.wavelet
  waveletHo : IsMember "WaveletFilters" f.waveletHo
  base : IsMember "BaseVideoFormats" f.base
  dwtDepth : 0 ≤ f.dwtDepth
  dwtDepthHo : 0 ≤ f.dwtDepthHo
  slicesX : 1 ≤ f.slicesX
  slicesY : 1 ≤ f.slicesY
  fragCount : 0 ≤ f.fragCount
  vp : vpOk vpFields f.vp = true
  pictureBytes : (f.lossless = true ↔ f.pictureBytes = none) ∧ ∀ pb, f.pictureBytes = some pb → 1 ≤ pb
  qm : ∀ m, f.qm = some m → m.length = qmLength f.dwtDepth f.dwtDepthHo

/-- obligations on the GENERATED tables: every base video format has defaults, and they are in domain -/
def TablesOk : Prop :=
  ((members "BaseVideoFormats").all (fun m => VC2.Gen.sourceDefaults.any (·.1 == m.2)) = true) ∧
  (VC2.Gen.sourceDefaults.all (fun d => vpOk vpFields d.2) = true)

theorem tables_ok : TablesOk := by
  constructor <;> decide +kernel

/-- `set_source_defaults` finds an entry for every base video format, and it is in domain -/
theorem lookupDefaults_sat (base : Int) (hb : IsMember "BaseVideoFormats" base) :
    Sat (lookupDefaults base) fun d => vpOk vpFields d = true := by
  unfold lookupDefaults
  split
  · next d hd => exact List.all_eq_true.1 tables_ok.2 d (List.mem_of_find?_eq_some hd)
  · next hnone =>
    obtain ⟨m, hm, hv⟩ := List.any_eq_true.1 hb
    obtain ⟨d, hd, hd2⟩ := List.any_eq_true.1 (List.all_eq_true.1 tables_ok.1 m hm)
    rw [eq_of_beq hv] at hd2
    exact absurd hd2 (List.find?_eq_none.1 hnone d hd)

theorem pop_enum_sat (col : Column) (field e : String) :
    Sat (pop col field (parseIntEnum e) none) fun r => IsMember e r.1 :=
  (pop_sat col field _ none).mono fun r h => h.elim (fun ⟨s, hs⟩ => parseIntEnum_member e s r.1 hs) nofun

theorem pop_min_sat (col : Column) (field : String) (m : Int) :
    Sat (pop col field (parseIntAtLeast m) none) fun r => m ≤ r.1 :=
  (pop_sat col field _ none).mono fun r h => h.elim (fun ⟨s, hs⟩ => parseIntAtLeast_ge m s r.1 hs) nofun

theorem popPictureBytes_sat (lossless : Bool) (col : Column) :
    Sat (popPictureBytes lossless col) fun r => (lossless = true ↔ r.1 = none) ∧ ∀ pb, r.1 = some pb → 1 ≤ pb := by
  unfold popPictureBytes
  split
  · next hl =>
    split
    · trivial
    · exact ⟨⟨fun _ => rfl, fun _ => hl⟩, nofun⟩
  · next hl =>
    have := pop_min_sat col "picture_bytes" 1
    split
    · next pb _ hp =>
      rw [hp] at this
      exact ⟨⟨fun h => absurd h hl, nofun⟩, fun x hx => Option.some.inj hx ▸ this⟩
    · next e he => exact (he ▸ this).error

theorem pop_qm_sat (col : Column) (d dh : Int) :
    Sat (pop col "quantization_matrix" (fun s => (parseQuantMatrix d dh s).map some) (some none))
      fun r => ∀ m, r.1 = some m → m.length = qmLength d dh :=
  (pop_sat col _ _ _).mono fun r h m hm => by
    rw [hm] at h
    obtain ⟨s, hs⟩ | hd := h
    · obtain ⟨mm, hq, hmm⟩ := Option.map_eq_some_iff.1 hs
      exact Option.some.inj hmm ▸ parseQuantMatrix_length d dh s mm hq
    · cases hd

/-- one column: never a crash, and a returned configuration is in its domain and carries the given name -/
theorem parseColumn_sat (name : String) (col : Column) :
    Sat (parseColumn name col) fun f => InDomain f ∧ f.name = name := by
  unfold parseColumn
  refine (pop_enum_sat ..).bind fun _ level => ?_
  refine (pop_enum_sat ..).bind fun _ profile => ?_
  refine (pop_enum_sat ..).bind fun _ pcm => ?_
  refine (pop_enum_sat ..).bind fun _ wavelet => ?_
  refine (pop_enum_sat ..).bind fun _ waveletHo => ?_
  refine (pop_min_sat ..).bind fun _ dwtDepth => ?_
  refine (pop_min_sat ..).bind fun _ dwtDepthHo => ?_
  refine (pop_min_sat ..).bind fun _ slicesX => ?_
  refine (pop_min_sat ..).bind fun _ slicesY => ?_
  refine (pop_min_sat ..).bind fun _ fragCount => ?_
  refine (pop_sat ..).bind fun _ _ => ?_
  refine (pop_enum_sat ..).bind fun _ base => ?_
  refine (lookupDefaults_sat _ base).bind fun _ defaults => ?_
  refine (popVp_sat _ _ _ defaults).bind fun _ vp => ?_
  refine (popPictureBytes_sat ..).bind fun _ pictureBytes => ?_
  refine (pop_qm_sat ..).bind fun _ qm => ?_
  refine Sat.bind (P := fun _ => True) (by unfold checkEmpty; split <;> trivial) fun _ _ => ?_
  exact ⟨⟨level, profile, pcm, wavelet, waveletHo, base, dwtDepth, dwtDepthHo, slicesX, slicesY, fragCount,
    vp, pictureBytes, qm⟩, rfl⟩

theorem readColumns_sat : ∀ (cols : List Column) (i : Nat) (out : List Features),
    (∀ f ∈ out, InDomain f) → (out.map (·.name)).Nodup →
    Sat (readColumns cols i out) fun fs => (∀ f ∈ fs, InDomain f) ∧ (fs.map (·.name)).Nodup
  | [], _, _, h1, h2 => ⟨h1, h2⟩
  | col :: rest, i, out, h1, h2 => by
    unfold readColumns
    split
    · exact readColumns_sat rest _ out h1 h2
    · generalize nameOf col i = nc
      split
      · trivial
      · next hnew =>
        have hcol := parseColumn_sat nc.1 nc.2
        split
        · next f hp =>
          obtain ⟨hd, hn⟩ := hcol.of_ok hp
          refine readColumns_sat rest _ _ (fun g hg => ?_) ?_
          · exact (List.mem_append.1 hg).elim (h1 g) fun hg => List.mem_singleton.1 hg ▸ hd
          · -- the new name is none of the old ones
            rw [List.map_append, List.nodup_append]
            refine ⟨h2, by simp, fun a ha b hb hab => hnew ?_⟩
            obtain ⟨g, hg, hgn⟩ := List.mem_map.1 ha
            exact List.any_eq_true.2 ⟨g, hg, by rw [beq_iff_eq, hgn, hab, List.mem_singleton.1 hb]; exact hn⟩
        · next e hp => exact (hp ▸ hcol).error

/-- the column loop: everything returned is in its domain, under distinct names; never a crash -/
theorem readColumns_spec (cols : List Column) (i : Nat) (out : List Features)
    (h1 : ∀ f ∈ out, InDomain f) (h2 : (out.map (·.name)).Nodup) :
    (∀ w, readColumns cols i out ≠ .error (.crash w)) ∧
    (∀ fs, readColumns cols i out = .ok fs → (∀ f ∈ fs, InDomain f) ∧ (fs.map (·.name)).Nodup) :=
  have h := readColumns_sat cols i out h1 h2
  ⟨h.ne_crash, fun _ => h.of_ok⟩

end VC2.Proofs.CodecCsv
