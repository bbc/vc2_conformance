/-
  C19: soundness of the queue search `make_matching_sequence` (model: VC2.Model.SymRe.search).
-/
import VC2.Proofs.SymReMatcher
namespace VC2.Proofs.SymRe
open VC2 VC2.Model.SymRe

theorem run_snoc : ∀ (w : List String) (mt : Matcher) (a : String),
    mt.run (w ++ [a]) = (mt.run w).bind (·.matchSymbol a) := by
  intro w
  induction w with
  | nil => intro mt a; simp [Matcher.run]
  | cons b w ih =>
    intro mt a
    simp only [List.cons_append, Matcher.run]
    cases mt.matchSymbol b with
    | none => simp
    | some mt1 => simp only [Option.bind_some]; exact ih mt1 a

/-- `m` lists `c`, itself or through the wildcard -/
def Lists (m : Matcher) (c : String) : Prop :=
  m.validNext.contains c = true ∨ m.validNext.contains WILDCARD = true

/-- a listed symbol is accepted, in whatever state the matcher is -/
theorem accept_of_listed (mt : Matcher) (a : String) (ha : a ≠ END) (hl : Lists mt a) :
    (mt.matchSymbol a).isSome = true := by
  apply (validNext_exact mt a ha).1.1
  rcases hl with h | h
  · exact ⟨a, by simpa using h, by simp [labelMatches]⟩
  · exact ⟨WILDCARD, by simpa using h, by simp [labelMatches]⟩

/-- matcher states are exactly the result of running each pattern on `w` -/
def StatesOf (pats : List Ast) (w : List String) (ms : List Matcher) : Prop :=
  pats.map (fun p => (Matcher.init false p).run w) = ms.map some

theorem statesOf_step {pats : List Ast} {w : List String} {ms : List Matcher} (a : String)
    (h : StatesOf pats w ms) (hacc : ∀ mt ∈ ms, (mt.matchSymbol a).isSome = true) :
    StatesOf pats (w ++ [a]) (stepAll ms a) := by
  unfold StatesOf at h ⊢
  have hsnoc : (fun p => (Matcher.init false p).run (w ++ [a])) =
      (fun o : Option Matcher => o.bind (·.matchSymbol a)) ∘ fun p => (Matcher.init false p).run w :=
    funext fun p => run_snoc w _ a
  rw [hsnoc, ← List.map_map, h, stepAll, List.map_map, List.map_map]
  refine List.map_congr_left fun mt hmt => ?_
  obtain ⟨mt', h'⟩ := Option.isSome_iff_exists.1 (hacc mt hmt)
  simp [h']

theorem states_of_pattern {pats : List Ast} {w : List String} {ms : List Matcher}
    (h : StatesOf pats w ms) : ∀ p ∈ pats, ∃ mt ∈ ms, (Matcher.init false p).run w = some mt := by
  intro p hp
  have hmem := List.mem_map_of_mem (f := fun p => (Matcher.init false p).run w) hp
  rw [show pats.map _ = ms.map some from h] at hmem
  obtain ⟨mt, hmt, e⟩ := List.mem_map.1 hmem
  exact ⟨mt, hmt, e.symm⟩

theorem mem_foldl_insertStr (xs acc : List String) (y : String) :
    y ∈ xs.foldl insertStr acc ↔ y ∈ acc ∨ y ∈ xs := by
  simpa using mem_foldl_of_step (P := fun a y => y = a) mem_insertStr xs acc y

theorem mem_insertSorted (x : String) : ∀ (l : List String) (y : String),
    y ∈ insertSorted x l ↔ y = x ∨ y ∈ l
  | [], y => by simp [insertSorted]
  | z :: zs, y => by
    unfold insertSorted
    split
    · simp
    · simp [mem_insertSorted x zs, or_left_comm]

theorem mem_sortStrs (l : List String) (y : String) : y ∈ sortStrs l ↔ y ∈ l := by
  unfold sortStrs
  induction l with
  | nil => simp
  | cons x xs ih => simp only [List.foldr_cons, mem_insertSorted, ih, List.mem_cons]

/-- what the candidate combination guarantees: every candidate is listed by every matcher and is
    not the end marker, and the wildcard survives only if every matcher lists it -/
def CandOk (ms : List Matcher) (cand : List String) : Prop :=
  (∀ c ∈ cand, c ≠ END ∧ ∀ m ∈ ms, Lists m c) ∧
  (WILDCARD ∈ cand → ∀ m ∈ ms, WILDCARD ∈ m.validNext)

def candStep (cand : List String) (m : Matcher) : List String :=
  let syms := m.validNext.filter (· != END)
  if syms.contains WILDCARD && cand.contains WILDCARD then syms.foldl insertStr cand
  else if cand.contains WILDCARD then syms
  else if syms.contains WILDCARD then cand
  else cand.filter syms.contains

theorem candidates_eq (ms : List Matcher) : candidates ms = ms.foldl candStep [WILDCARD] := rfl

theorem wildcard_ne_end : WILDCARD ≠ END := by decide

theorem Lists.of_wildcard {m : Matcher} {c : String} (h : WILDCARD ∈ m.validNext) : Lists m c :=
  .inr (List.contains_iff_mem.2 h)

theorem Lists.of_mem {m : Matcher} {c : String} (h : c ∈ m.validNext) : Lists m c :=
  .inl (List.contains_iff_mem.2 h)

theorem candOk_snoc {done : List Matcher} {m : Matcher} {cand : List String} :
    CandOk (done ++ [m]) cand ↔
    (∀ c ∈ cand, c ≠ END ∧ (∀ m' ∈ done, Lists m' c) ∧ Lists m c) ∧
    (WILDCARD ∈ cand → (∀ m' ∈ done, WILDCARD ∈ m'.validNext) ∧ WILDCARD ∈ m.validNext) := by
  simp only [CandOk, List.forall_mem_append, List.forall_mem_singleton]

theorem candStep_ok (done : List Matcher) (cand : List String) (m : Matcher)
    (h : CandOk done cand) : CandOk (done ++ [m]) (candStep cand m) := by
  obtain ⟨h1, h2⟩ := h
  have hsyms : ∀ {c}, c ∈ m.validNext.filter (· != END) → c ∈ m.validNext ∧ c ≠ END := by simp
  simp only [candStep]
  split
  · -- both list the wildcard: union
    rename_i hw
    simp only [Bool.and_eq_true, List.contains_iff_mem] at hw
    have hm := (hsyms hw.1).1
    refine candOk_snoc.2 ⟨fun c hc => ⟨?_, fun m' hm' => .of_wildcard (h2 hw.2 m' hm'), .of_wildcard hm⟩, fun _ => ⟨h2 hw.2, hm⟩⟩
    rcases (mem_foldl_insertStr _ _ _).1 hc with hc | hc
    · exact (h1 c hc).1
    · exact (hsyms hc).2
  · split
    · -- only the candidates so far list it: the matcher's symbols
      rename_i hw hc
      simp only [Bool.and_eq_true, List.contains_iff_mem, not_and] at hw hc
      exact candOk_snoc.2 ⟨fun c hcs => ⟨(hsyms hcs).2, fun m' hm' => .of_wildcard (h2 hc m' hm'), .of_mem (hsyms hcs).1⟩,
        fun hws => absurd hc (hw hws)⟩
    · split
      · -- only the matcher lists it: the candidates so far
        rename_i hc hw
        simp only [List.contains_iff_mem] at hw hc
        exact candOk_snoc.2 ⟨fun c hcc => ⟨(h1 c hcc).1, (h1 c hcc).2, .of_wildcard (hsyms hw).1⟩, fun hcc => absurd hcc hc⟩
      · -- neither: intersection
        rename_i hc _
        simp only [List.contains_iff_mem] at hc
        refine candOk_snoc.2 ⟨fun c hcf => ?_, fun hwf => absurd (List.mem_filter.1 hwf).1 hc⟩
        obtain ⟨hcc, hcs⟩ := List.mem_filter.1 hcf
        exact ⟨(h1 c hcc).1, (h1 c hcc).2, .of_mem (hsyms (List.contains_iff_mem.1 hcs)).1⟩

theorem foldl_candStep_ok (ms : List Matcher) : ∀ (done : List Matcher) (cand : List String),
    CandOk done cand → CandOk (done ++ ms) (ms.foldl candStep cand) := by
  induction ms with
  | nil => intro done cand h; simpa using h
  | cons m ms ih =>
    intro done cand h
    have := ih (done ++ [m]) (candStep cand m) (candStep_ok done cand m h)
    simpa [List.append_assoc] using this

theorem candidates_ok (ms : List Matcher) : CandOk ms (candidates ms) := by
  have := foldl_candStep_ok ms [] [WILDCARD]
    ⟨fun c hc => ⟨by cases List.mem_singleton.1 hc; exact wildcard_ne_end, fun _ hm => nomatch hm⟩,
     fun _ _ hm => nomatch hm⟩
  simpa [candidates_eq] using this

/-- the ordered list holds candidates only, or priority symbols standing in for the wildcard -/
theorem mem_orderCandidates {cands priority : List String} {c : String}
    (hc : c ∈ orderCandidates cands priority) : c ∈ cands ∨ (WILDCARD ∈ cands ∧ c ∈ priority) := by
  unfold orderCandidates at hc
  simp only [List.mem_append, mem_foldl_insertStr, mem_sortStrs, List.mem_filter, List.not_mem_nil,
    false_or, List.contains_iff_mem] at hc
  have hc' := hc.elim And.right And.left
  split at hc'
  · rename_i hw
    simp only [Bool.and_eq_true, List.contains_iff_mem] at hw
    rcases (mem_foldl_insertStr _ _ _).1 hc' with h | h
    · exact .inl (List.mem_filter.1 h).1
    · exact .inr ⟨hw.1, h⟩
  · exact .inl hc'

/-- every symbol the expansion step tries is listed by every matcher, and is not the end marker -/
theorem ordered_ok (ms : List Matcher) (priority : List String) (hp : ∀ a ∈ priority, a ≠ END)
    (c : String) (hc : c ∈ orderCandidates (candidates ms) priority) :
    c ≠ END ∧ ∀ m ∈ ms, Lists m c := by
  obtain ⟨h1, h2⟩ := candidates_ok ms
  rcases mem_orderCandidates hc with h | ⟨hw, h⟩
  · exact h1 c h
  · exact ⟨hp c h, fun m hm => .of_wildcard (h2 hw m hm)⟩

/-- invariant of every queue entry -/
structure ItemOk (required : List String) (pats : List Ast) (it : Item) : Prop where
  embed : ∃ consumed, required = consumed ++ it.remaining ∧ consumed.Sublist it.soFar
  states : StatesOf pats it.soFar it.matchers

/-- **soundness of the search**: whatever it returns embeds the required symbols (insertions only)
    and is a complete match of every pattern's matcher -/
theorem search_sound (required : List String) (pats : List Ast) (depthLimit : Nat)
    (priority : List String) (hreq : ∀ a ∈ required, a ≠ END) (hprio : ∀ a ∈ priority, a ≠ END) :
    ∀ (fuel : Nat) (queue : List Item), (∀ it ∈ queue, ItemOk required pats it) →
    ∀ l, search depthLimit priority fuel queue = some l →
      required.Sublist l ∧ ∃ ms, StatesOf pats l ms ∧ ∀ m ∈ ms, m.isComplete = true := by
  intro fuel
  induction fuel with
  | zero => intro queue _ l h; simp [search] at h
  | succ fuel ih =>
    intro queue hq l h
    cases queue with
    | nil => simp [search] at h
    | cons it queue =>
      have hit := hq it List.mem_cons_self
      have hrest : ∀ x ∈ queue, ItemOk required pats x := fun x hx => hq x (List.mem_cons_of_mem _ hx)
      -- the expansion step preserves the invariant
      have hexpq : ∀ x ∈ expandQueue priority it queue, ItemOk required pats x := by
        intro x hx
        unfold expandQueue at hx
        split at hx
        · exact hrest x hx
        · rw [List.mem_append] at hx
          rcases hx with hx | hx
          · exact hrest x hx
          · rw [List.mem_map] at hx
            obtain ⟨c, hc, rfl⟩ := hx
            obtain ⟨hcne, hlisted⟩ := ordered_ok it.matchers priority hprio c hc
            obtain ⟨consumed, he1, he2⟩ := hit.embed
            refine ⟨⟨consumed, he1, ?_⟩, ?_⟩
            · exact he2.trans (List.sublist_append_left _ _)
            · exact statesOf_step c hit.states fun mt hmt => accept_of_listed mt c hcne (hlisted mt hmt)
      have hexp : ∀ l, search depthLimit priority fuel (expandQueue priority it queue) = some l →
          required.Sublist l ∧ ∃ ms, StatesOf pats l ms ∧ ∀ m ∈ ms, m.isComplete = true :=
        fun l hl => ih _ hexpq l hl
      simp only [search] at h
      split at h
      · -- no required symbols left
        rename_i hrem
        split at h
        · rename_i hall
          injection h with h; subst h
          obtain ⟨consumed, he1, he2⟩ := hit.embed
          rw [hrem, List.append_nil] at he1
          refine ⟨by rw [he1]; exact he2, it.matchers, hit.states, ?_⟩
          intro m hm
          exact (List.all_eq_true.1 hall) m hm
        · exact hexp l h
      · rename_i a rest hrem
        split at h
        · rename_i hall
          apply ih _ _ l h
          intro x hx
          rw [List.mem_append, List.mem_singleton] at hx
          rcases hx with hx | hx
          · exact hrest x hx
          · subst hx
            obtain ⟨consumed, he1, he2⟩ := hit.embed
            rw [hrem] at he1
            have ha : a ≠ END := hreq a (by rw [he1]; simp)
            refine ⟨⟨consumed ++ [a], by rw [he1]; simp, ?_⟩, ?_⟩
            · exact List.Sublist.append he2 (List.Sublist.refl _)
            · exact statesOf_step a hit.states fun mt hmt =>
                accept_of_listed mt a ha (by simpa [Lists] using List.all_eq_true.1 hall mt hmt)
        · exact hexp l h

end VC2.Proofs.SymRe
