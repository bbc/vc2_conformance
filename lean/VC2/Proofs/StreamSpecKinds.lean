/- The picture bookkeeping of the rule context (`startsPicture`, `nextFrag`, `pictureOk`) by kind of unit:
   shared by the simulation proof (Proofs/StreamSpec.lean) and the rule-by-rule reading (Proofs/StreamRules.lean). -/
import VC2.Model.StreamSpec
namespace VC2.Proofs.StreamSpec
open VC2 VC2.Model.Stream VC2.Model.StreamSpec

theorem startsPicture_of_ne {u : DUnit} (h1 : u.kind ≠ .picture) (h2 : u.kind ≠ .fragment) :
    startsPicture u = false := by
  simp [startsPicture, h1, h2]

theorem nextFrag_of_ne (cfg : Config) (c : Ctx) {u : DUnit} (h : u.kind ≠ .fragment) : nextFrag cfg c u = c.frag := by
  unfold nextFrag
  split
  · contradiction
  · rfl

theorem startsPicture_eos {u : DUnit} (h : u.kind = .eos) : startsPicture u = false :=
  startsPicture_of_ne (by rw [h]; nofun) (by rw [h]; nofun)

theorem nextFrag_eos (cfg : Config) (c : Ctx) {u : DUnit} (h : u.kind = .eos) : nextFrag cfg c u = c.frag :=
  nextFrag_of_ne cfg c (by rw [h]; nofun)

theorem pictureOk_eos (cfg : Config) (c : Ctx) {u : DUnit} (h : u.kind = .eos) : pictureOk cfg c u = true := by
  simp [pictureOk, h]

end VC2.Proofs.StreamSpec
