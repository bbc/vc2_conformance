/- `StreamSpec.conformant` is the conjunction of the eight independent rules of `StreamRules`. -/
import VC2.Model.StreamRules
import VC2.Proofs.StreamSpecKinds
namespace VC2.Proofs.StreamRules
open VC2 VC2.Model.SymRe VC2.Model.Stream VC2.Model.StreamSpec VC2.Model.StreamRules VC2.Proofs.StreamSpec

/-- `pictureOk` is the picture-number rule (5) and the fragment rule (6) side by side -/
theorem pictureOk_eq (cfg : Config) (c : Ctx) (u : DUnit) :
    pictureOk cfg c u =
      ((if startsPicture u then numberOk c u.picNum else true) &&
       (match u.kind with
        | .picture => c.frag.isNone
        | .fragment =>
          if u.sliceCount = 0 then c.frag.isNone
          else match c.frag with
            | none => false
            | some (num, got) =>
              u.picNum == num && decide (got + u.sliceCount ≤ cfg.slicesX * cfg.slicesY) &&
              u.fx == got % cfg.slicesX && u.fy == got / cfg.slicesX
        | _ => true)) := by
  unfold pictureOk startsPicture
  cases u.kind with
  | picture => exact Bool.and_comm ..
  | fragment =>
    by_cases h : u.sliceCount = 0
    · simp [h, Bool.and_comm]
    · simp [h]; rfl
  | _ => rfl

/-! ### the rules inside a sequence -/

/-- the rules inside a sequence, each started from its own part of the context -/
def rulesIn (cfg : Config) (c : Ctx) (us : List DUnit) : Bool :=
  shapeRule true us && offsetsRule (some (c.prevLen, c.prevNext)) us && headersRule (some c.hdr) us &&
  codesRule (some c.hdr) us && numbersRule (some (c.hdr, c.lastNum, c.npics)) us &&
  fragmentsRule cfg (some c.frag) us && versionRule (some (c.hdr, c.need, c.npics)) us &&
  patternsRule cfg (some (c.generic, c.level)) us

/-- one unit inside a sequence: the eight rules together make exactly the step of `specRun`.  Every rule
    is `its check && its recursion`, so once the end of sequence is split off both sides are the same
    conjunction in a different order. -/
theorem rulesIn_cons (cfg : Config) (c : Ctx) (u : DUnit) (rest : List DUnit) :
    rulesIn cfg c (u :: rest) =
      match c.generic.matchSymbol (codeName u.code), c.level.matchSymbol (codeName u.code) with
      | some g, some l =>
        unitOk cfg c u &&
        (if u.kind = .eos then endOk (nextCtx cfg c u g l) && allRules cfg rest
         else rulesIn cfg (nextCtx cfg c u g l) rest)
      | _, _ => false := by
  unfold rulesIn
  simp only [shapeRule, offsetsRule, headersRule, codesRule, numbersRule, fragmentsRule, versionRule, patternsRule]
  cases c.generic.matchSymbol (codeName u.code) with
  | none => simp only [Bool.and_false]
  | some g =>
    cases c.level.matchSymbol (codeName u.code) with
    | none => simp only [Bool.and_false]
    | some l =>
      by_cases hk : u.kind = .eos
      · simp only [hk, unitOk, endOk, allRules, pictureOk_eos cfg c hk, nextCtx, startsPicture_eos hk,
          nextFrag_eos cfg c hk, pendingOk, bne_self_eq_false, Bool.false_eq_true, if_false, if_true, Bool.and_true]
        ac_rfl
      · have hk' : (u.kind != Kind.eos) = true := bne_iff_ne.2 hk
        simp only [hk, hk', if_false, unitOk, nextCtx, pendingOk, pictureOk_eq, numberOk, nextFrag]
        ac_rfl

/-- the first unit of a sequence -/
theorem allRules_cons (cfg : Config) (u : DUnit) (rest : List DUnit) :
    allRules cfg (u :: rest) =
      match (Matcher.init false genericPattern).matchSymbol (codeName u.code),
            (Matcher.init false cfg.levelPattern).matchSymbol (codeName u.code) with
      | some g, some l => headOk u && rulesIn cfg (firstCtx u g l) rest
      | _, _ => false := by
  unfold allRules
  simp only [shapeRule, offsetsRule, headersRule, codesRule, numbersRule, fragmentsRule, versionRule, patternsRule]
  cases (Matcher.init false genericPattern).matchSymbol (codeName u.code) with
  | none => simp only [Bool.and_false]
  | some g =>
    cases (Matcher.init false cfg.levelPattern).matchSymbol (codeName u.code) with
    | none => simp only [Bool.and_false]
    | some l =>
      simp only [headOk, rulesIn, firstCtx]
      ac_rfl

theorem spec_eq_rules (cfg : Config) : ∀ (us : List DUnit),
    specRun cfg none us = allRules cfg us ∧ ∀ c, specRun cfg (some c) us = rulesIn cfg c us := by
  intro us
  induction us with
  | nil => exact ⟨rfl, fun _ => rfl⟩
  | cons u rest ih =>
    refine ⟨?_, fun c => ?_⟩
    · rw [specRun, allRules_cons]
      simp only [ih.2]
      rfl
    · rw [specRun, rulesIn_cons]
      simp only [ih.1, ih.2]
      rfl

end VC2.Proofs.StreamRules
