/- Helper lemmas and main proofs for C14 (slice budgets, smallest qindex, 8-bit length fields). Core Lean only. -/
import VC2.Model.SliceFit
import VC2.Props.C13
import VC2.Proofs.IntDiv
namespace VC2.Proofs.SliceFit
open VC2 VC2.Gen VC2.Model.SliceFit


theorem qtf_least (target : Int) (sets : List Comp) (align : Int) :
    ∀ (fuel : Nat) (q0 q : Int), quantizeToFit target sets align fuel q0 = some q →
      q0 ≤ q ∧ fits target sets align q = true ∧ ∀ q', q0 ≤ q' → q' < q → fits target sets align q' = false := by
  intro fuel
  induction fuel with
  | zero => intro q0 q h; cases h
  | succ fuel ih =>
    intro q0 q h
    simp only [quantizeToFit] at h
    by_cases hf : fits target sets align q0 = true
    · rw [if_pos hf] at h
      cases h
      exact ⟨Int.le_refl _, hf, fun q' h1 h2 => by omega⟩
    · rw [if_neg hf] at h
      obtain ⟨a, b, c⟩ := ih (q0 + 1) q h
      refine ⟨by omega, b, fun q' h1 h2 => ?_⟩
      by_cases he : q' = q0
      · subst he; simpa using hf
      · exact c q' (by omega) h2

theorem qtf_finds (target : Int) (sets : List Comp) (align : Int) :
    ∀ (fuel : Nat) (q0 q1 : Int), q0 ≤ q1 → q1 - q0 < fuel → fits target sets align q1 = true →
      ∃ q, quantizeToFit target sets align fuel q0 = some q := by
  intro fuel
  induction fuel with
  | zero => intro q0 q1 _ h _; omega
  | succ fuel ih =>
    intro q0 q1 h01 hf hfit
    simp only [quantizeToFit]
    by_cases hq : fits target sets align q0 = true
    · exact ⟨q0, by rw [if_pos hq]⟩
    · rw [if_neg hq]
      have : q0 ≠ q1 := by intro e; subst e; exact hq hfit
      exact ih (q0 + 1) q1 (by omega) (by omega) hfit

/-- the 8-bit scaler `max(1, ⌈m / 255⌉)` of both high-quality encoders covers `m` -/
theorem scaler_covers (m : Int) : m ≤ 255 * pymax 1 (pydiv (m + 254) 255) := by
  have h := le_pymax_right 1 (pydiv (m + 254) 255)
  rw [pydiv_pos _ _ (by decide)] at h ⊢
  omega

theorem segl_nonneg (v : Int) : 0 ≤ signed_exp_golomb_length v := by
  have key : ∀ w : Int, 0 ≤ exp_golomb_length w := by
    intro w
    unfold exp_golomb_length bitLength
    split
    · omega
    · split <;> omega
  unfold signed_exp_golomb_length
  have := key (pyabs v)
  simp only []
  split <;> omega

theorem sum_nonneg : ∀ (l : List Int), (∀ x ∈ l, 0 ≤ x) → 0 ≤ l.sum := by
  intro l; induction l with
  | nil => intro _; simp
  | cons a as ih => intro h; simp only [List.sum_cons]; have := h a List.mem_cons_self; have := ih (fun x hx => h x (List.mem_cons_of_mem _ hx)); omega

theorem coeffsBits_nonneg (l : List Int) : 0 ≤ coeffsBits l := by
  unfold coeffsBits
  apply sum_nonneg
  intro x hx
  obtain ⟨v, _, rfl⟩ := List.mem_map.1 hx
  exact segl_nonneg v

theorem hqLengthField_nonneg (l : List Int) (s : Int) (hs : 1 ≤ s) : 0 ≤ hqLengthField l s := by
  unfold hqLengthField
  have := coeffsBits_nonneg l
  exact ceil_nonneg _ (by omega) this

theorem foldl_max_ge (f : (Int × Int × Int) → Int) : ∀ (l : List (Int × Int × Int)) (m : Int),
    m ≤ l.foldl (fun m t => pymax m (f t)) m ∧ ∀ t ∈ l, f t ≤ l.foldl (fun m t => pymax m (f t)) m := by
  intro l
  induction l with
  | nil => intro m; simp
  | cons a as ih =>
    intro m
    have := ih (pymax m (f a))
    simp only [List.foldl_cons, List.mem_cons, forall_eq_or_imp]
    have h1 := le_pymax_left m (f a)
    have h2 := le_pymax_right m (f a)
    exact ⟨by omega, by omega, this.2⟩

/-- **lossless HQ**: with the scaler the encoder chooses, every length field of every slice lies in
    [0, 255] and still covers the coded coefficients (scaler · field ≥ length in bytes) -/
theorem hqLossless_lengths_fit (minScaler : Int) (slices : List SliceIn) :
    let r := hqLossless minScaler slices
    1 ≤ r.1 ∧ minScaler ≤ r.1 ∧
    ∀ hs ∈ r.2, 0 ≤ hs.yLen ∧ hs.yLen ≤ 255 ∧ 0 ≤ hs.c1Len ∧ hs.c1Len ≤ 255 ∧ 0 ≤ hs.c2Len ∧ hs.c2Len ≤ 255 := by
  simp only [hqLossless]
  generalize hraw : slices.map (fun s => (hqLengthField s.y.vals 1, hqLengthField s.c1.vals 1, hqLengthField s.c2.vals 1)) = raw
  have hfold := foldl_max_ge (fun t => pymax t.1 (pymax t.2.1 t.2.2)) raw 0
  generalize raw.foldl (fun m t => pymax m (pymax t.1 (pymax t.2.1 t.2.2))) 0 = maxLen at hfold ⊢
  have hc : pymax 1 (pydiv (maxLen + 254) 255) ≤ pymax 1 (pymax minScaler (pydiv (maxLen + 254) 255)) :=
    pymax_le (le_pymax_left _ _) (Int.le_trans (le_pymax_right _ _) (le_pymax_right _ _))
  have hs1 := le_pymax_left 1 (pymax minScaler (pydiv (maxLen + 254) 255))
  have hsm := Int.le_trans (le_pymax_left minScaler (pydiv (maxLen + 254) 255)) (le_pymax_right 1 _)
  generalize pymax 1 (pymax minScaler (pydiv (maxLen + 254) 255)) = scaler at hc hs1 hsm ⊢
  have hs0 : 0 < scaler := Int.lt_of_lt_of_le (by decide) hs1
  have hcov : maxLen ≤ 255 * scaler :=
    Int.le_trans (scaler_covers maxLen) (Int.mul_le_mul_of_nonneg_left hc (by decide))
  refine ⟨hs1, hsm, fun hs hmem => ?_⟩
  obtain ⟨t, ht, rfl⟩ := List.mem_map.1 hmem
  have h0 : 0 ≤ t.1 ∧ 0 ≤ t.2.1 ∧ 0 ≤ t.2.2 := by
    obtain ⟨s, _, rfl⟩ := List.mem_map.1 (hraw ▸ ht)
    -- without reducing the projections of the triple first, unification unfolds `hqLengthField`
    dsimp only
    exact ⟨hqLengthField_nonneg _ 1 (by decide), hqLengthField_nonneg _ 1 (by decide), hqLengthField_nonneg _ 1 (by decide)⟩
  -- each raw length is below the maximum, hence below `255 * scaler`
  have b : pymax t.1 (pymax t.2.1 t.2.2) ≤ 255 * scaler := Int.le_trans (hfold.2 _ ht) hcov
  have b23 := Int.le_trans (le_pymax_right _ _) b
  dsimp only
  exact ⟨ceil_nonneg _ hs0 h0.1, ceil_le _ _ hs0 (Int.le_trans (le_pymax_left _ _) b),
         ceil_nonneg _ hs0 h0.2.1, ceil_le _ _ hs0 (Int.le_trans (le_pymax_left _ _) b23),
         ceil_nonneg _ hs0 h0.2.2, ceil_le _ _ hs0 (Int.le_trans (le_pymax_right _ _) b23)⟩

theorem totalLength_nil (q align : Int) : totalLength q [] align = 0 := rfl

theorem totalLength_cons (q : Int) (c : Comp) (cs : List Comp) (align : Int) :
    totalLength q (c :: cs) align =
      pydiv (coeffsBits (quantizeCoeffs q c) + align - 1) align * align + totalLength q cs align := rfl

theorem totalLength_align1 (q : Int) (a b : Comp) :
    totalLength q [a, b] 1 = coeffsBits (quantizeCoeffs q a) + coeffsBits (quantizeCoeffs q b) := by
  have e : ∀ x : Int, pydiv (x + 1 - 1) 1 * 1 = x := by
    intro x; rw [pydiv_pos _ _ (by decide)]; simp
  rw [totalLength_cons, totalLength_cons, totalLength_nil, e, e, Int.add_zero]

/-- at alignment `8 · scaler` the total is the sum of the three length fields, in bits -/
theorem totalLength_hq (q s : Int) (a b c : Comp) :
    totalLength q [a, b, c] (8 * s) =
      (hqLengthField (quantizeCoeffs q a) s + hqLengthField (quantizeCoeffs q b) s
        + hqLengthField (quantizeCoeffs q c) s) * (8 * s) := by
  rw [totalLength_cons, totalLength_cons, totalLength_cons, totalLength_nil, Int.add_zero,
    Int.add_mul, Int.add_mul, Int.add_assoc]
  rfl

/-- **low-delay slices**: the chosen index is the smallest one (from the requested minimum) whose
    luma and chroma coefficients fit the slice, and the luma length is non-negative and within the
    bits left after the qindex and length fields -/
theorem ld_slice_spec (fuel : Nat) (minQ sb : Int) (s : SliceIn) (q yl : Int)
    (h : ldLossySlice fuel minQ sb s = some (q, yl)) :
    minQ ≤ q ∧ 0 ≤ yl ∧ yl ≤ (8 * sb - 7) - intlog2 (8 * sb - 7) ∧
    fits ((8 * sb - 7) - intlog2 (8 * sb - 7))
      [s.y, { vals := interleave s.c1.vals s.c2.vals, qm := interleave s.c1.qm s.c2.qm }] 1 q = true ∧
    (∀ q', minQ ≤ q' → q' < q → fits ((8 * sb - 7) - intlog2 (8 * sb - 7))
      [s.y, { vals := interleave s.c1.vals s.c2.vals, qm := interleave s.c1.qm s.c2.qm }] 1 q' = false) := by
  unfold ldLossySlice at h
  simp only at h
  split at h
  · cases h
  · split at h
    · cases h
    · rename_i q0 hq
      simp at h
      obtain ⟨e1, e2⟩ := h; subst e1 e2
      obtain ⟨a, b, cmin⟩ := qtf_least _ _ _ fuel minQ q0 hq
      refine ⟨a, coeffsBits_nonneg _, ?_, b, cmin⟩
      have hb := b
      unfold fits at hb
      simp only [decide_eq_true_eq] at hb
      rw [totalLength_align1] at hb
      have := coeffsBits_nonneg (quantizeCoeffs q0 { vals := interleave s.c1.vals s.c2.vals, qm := interleave s.c1.qm s.c2.qm })
      omega

/-- **total high-quality slice data**: 4 bytes of fixed fields per slice plus scaler × the length
    budgets sum to picture_bytes, to within less than one scaler unit -/
theorem hq_total_bytes (pb : Int) (sx sy : Nat) (scaler : Int) (hsx : 1 ≤ sx) (hsy : 1 ≤ sy) (hs : 1 ≤ scaler)
    (hpb : (sx * sy : Nat) * 4 ≤ pb) :
    let n : Nat := sx * sy
    let st := hqState pb sx sy scaler
    let total := VC2.Proofs.Slices.sumTo (fun N => slice_bytes st ((N : Int) % st.slices_x) ((N : Int) / st.slices_x)) n
    pb - scaler < 4 * n + scaler * total ∧ 4 * (n : Int) + scaler * total ≤ pb := by
  intro n st total
  have hn : 0 < (n : Int) := by
    have : 0 < sx * sy := Nat.mul_pos hsx hsy
    show (0 : Int) < ((sx * sy : Nat) : Int); omega
  have hden : 0 < st.slice_bytes_denominator := by
    show 0 < (sx : Int) * sy * scaler
    have : (sx : Int) * sy = ((sx * sy : Nat) : Int) := (Int.natCast_mul sx sy).symm
    rw [this]; exact Int.mul_pos hn (by omega)
  have hsum := VC2.Props.C13.slice_bytes_sum st n hden (by show 1 ≤ (sx : Int); omega)
  have htot : total = (pb - n * 4) / scaler := by
    show VC2.Proofs.Slices.sumTo _ n = _
    rw [hsum]
    show (n : Int) * (pb - (sx : Int) * sy * 4) / ((sx : Int) * sy * scaler) = _
    have : (sx : Int) * sy = (n : Int) := (Int.natCast_mul sx sy).symm
    rw [this]
    exact Int.mul_ediv_mul_of_pos _ _ hn
  rw [htot, Int.mul_comm scaler]
  have h1 := ediv_mul_le (pb - n * 4) (by omega : 0 < scaler)
  have h2 := lt_ediv_mul_add (pb - n * 4) (by omega : 0 < scaler)
  constructor <;> omega

/-- **high-quality lossy slices**: the chosen index is the smallest fitting one, the three length
    fields are non-negative, add up to the slice's budget, and the third still holds its coefficients -/
theorem hq_slice_spec (fuel : Nat) (scaler minQ totalLen : Int) (hs : 1 ≤ scaler) (s : SliceIn) (r : HqSlice)
    (h : hqLossySlice fuel scaler minQ totalLen s = some r) :
    minQ ≤ r.qindex ∧
    fits (8 * scaler * totalLen) [s.y, s.c1, s.c2] (8 * scaler) r.qindex = true ∧
    (∀ q', minQ ≤ q' → q' < r.qindex → fits (8 * scaler * totalLen) [s.y, s.c1, s.c2] (8 * scaler) q' = false) ∧
    0 ≤ r.yLen ∧ 0 ≤ r.c1Len ∧ hqLengthField (quantizeCoeffs r.qindex s.c2) scaler ≤ r.c2Len ∧ 0 ≤ r.c2Len ∧
    r.yLen + r.c1Len + r.c2Len = totalLen := by
  unfold hqLossySlice at h
  split at h
  · cases h
  · rename_i q hq
    simp at h; subst h
    obtain ⟨a, b, c⟩ := qtf_least _ _ _ fuel minQ q hq
    -- the three fields, times `8 · scaler`, fit the target `8 · scaler · totalLen`
    have hb : _ ≤ _ := of_decide_eq_true b
    rw [totalLength_hq, Int.mul_comm (8 * scaler) totalLen] at hb
    have hle := Int.le_of_mul_le_mul_right hb (by omega)
    have hy := hqLengthField_nonneg (quantizeCoeffs q s.y) scaler hs
    have hc1 := hqLengthField_nonneg (quantizeCoeffs q s.c1) scaler hs
    have hc2 := hqLengthField_nonneg (quantizeCoeffs q s.c2) scaler hs
    dsimp only
    exact ⟨a, b, c, hy, hc1, by omega, by omega, by omega⟩

/-- **8-bit length fields, lossy high quality**: with the scaler the encoder computes (or any
    larger one), every slice's length budget — hence each of its three length fields — is ≤ 255 -/
theorem hq_lossy_budget_le_255 (pb : Int) (sx sy : Nat) (minScaler : Int) (hsx : 1 ≤ sx) (hsy : 1 ≤ sy)
    (hpb : (sx * sy : Nat) * 4 ≤ pb) (x y : Int) :
    slice_bytes (hqState pb sx sy (hqScaler pb ((sx * sy : Nat) : Int) minScaler)) x y ≤ 255 := by
  have hn : 0 < ((sx * sy : Nat) : Int) := by have : 0 < sx * sy := Nat.mul_pos hsx hsy; omega
  generalize hnn : ((sx * sy : Nat) : Int) = n at *
  have hsxy : (sx : Int) * sy = n := by rw [← hnn]; exact (Int.natCast_mul sx sy).symm
  -- the scaler is at least the safe one, which covers the largest length field `⌈pb / n⌉ - 4`
  have hs : pydiv (pb + n - 1) n - 4 ≤ 255 * hqScaler pb n minScaler :=
    Int.le_trans (scaler_covers _) (Int.mul_le_mul_of_nonneg_left (le_pymax_left _ minScaler) (by decide))
  have hs1 : 1 ≤ hqScaler pb n minScaler :=
    Int.le_trans (le_pymax_left 1 _) (le_pymax_left (get_safe_lossy_hq_slice_size_scaler pb n) minScaler)
  generalize hqScaler pb n minScaler = s at hs hs1 ⊢
  have hM := ceil_mul_ge pb hn
  have hden : 0 < n * s := Int.mul_pos hn (by omega)
  apply VC2.Props.C13.slice_bytes_le _ _ _ 255 (by simpa only [hqState, hsxy] using hden)
  show pb - (sx : Int) * sy * 4 ≤ 255 * ((sx : Int) * sy * s)
  -- numerator `pb - 4n ≤ (⌈pb / n⌉ - 4) · n ≤ 255 · s · n`
  have := Int.mul_le_mul_of_nonneg_right hs (Int.le_of_lt hn)
  rw [Int.sub_mul, Int.mul_assoc, Int.mul_comm s n] at this
  rw [hsxy]
  omega

end VC2.Proofs.SliceFit
