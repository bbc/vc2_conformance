/-
  C18, part B: the executable matcher (node lists, iterated ε-closure) computes exactly the
  relational semantics of the automaton.  Core Lean only.
-/
import VC2.Proofs.SymRe
namespace VC2.Proofs.SymRe
open VC2 VC2.Model.SymRe

/-- input letters: a real data-unit name, or the end marker -/
inductive Sym
  | real (a : String)
  | endm
  deriving DecidableEq, Repr

/-- label `l` matches a letter: `follow(a) ∪ follow(".")` for real symbols, `follow("")` for the end -/
def mrel (l : String) : Sym → Prop
  | .real a => labelMatches l a = true
  | .endm => l = END

abbrev EpsStar (es : List Edge) (p q : Nat) : Prop := Path mrel es p ([] : List Sym) q

/-! ### list-as-set helpers -/

theorem mem_insertNew (l : List Nat) (x y : Nat) : y ∈ insertNew l x ↔ y ∈ l ∨ y = x := by
  unfold insertNew
  split
  · rename_i h; exact ⟨.inl, fun h' => h'.elim id fun e => e ▸ List.contains_iff_mem.1 h⟩
  · simp

theorem mem_foldl_of_step {α β : Type} {g : List β → α → List β} {P : α → β → Prop}
    (hg : ∀ acc a y, y ∈ g acc a ↔ y ∈ acc ∨ P a y) :
    ∀ (l : List α) (acc : List β) (y : β), y ∈ l.foldl g acc ↔ y ∈ acc ∨ ∃ a ∈ l, P a y
  | [], acc, y => by simp
  | a :: l, acc, y => by simp [mem_foldl_of_step hg l, hg, or_assoc]

theorem mem_unionNew (l m : List Nat) (y : Nat) : y ∈ unionNew l m ↔ y ∈ l ∨ y ∈ m := by
  unfold unionNew
  simpa using mem_foldl_of_step (P := fun a y => y = a) mem_insertNew m l y

theorem mem_epsSucc (es : List Edge) (S : List Nat) (y : Nat) :
    y ∈ epsSucc false es S ↔ ∃ x ∈ S, (⟨x, none, y⟩ : Edge) ∈ es := by
  unfold epsSucc
  rw [mem_foldl_of_step (P := fun e y => e.lbl = none ∧ e.src ∈ S ∧ y = e.dst)]
  · constructor
    · rintro (h | ⟨⟨x, _, _⟩, he, rfl, hs, rfl⟩)
      · cases h
      · exact ⟨x, hs, he⟩
    · rintro ⟨x, hs, he⟩; exact .inr ⟨_, he, rfl, hs, rfl⟩
  · intro acc e y
    cases e.lbl <;> by_cases hs : e.src ∈ S <;> simp [hs, mem_insertNew]

theorem mem_stepOn (es : List Edge) (S : List Nat) (p : String → Bool) (y : Nat) :
    y ∈ stepOn es S p ↔ ∃ x ∈ S, ∃ l, p l = true ∧ (⟨x, some l, y⟩ : Edge) ∈ es := by
  unfold stepOn
  rw [mem_foldl_of_step (P := fun e y => ∃ l, e.lbl = some l ∧ p l = true ∧ e.src ∈ S ∧ y = e.dst)]
  · constructor
    · rintro (h | ⟨⟨x, _, _⟩, he, l, rfl, hp, hs, rfl⟩)
      · cases h
      · exact ⟨x, hs, l, hp, he⟩
    · rintro ⟨x, hs, l, hp, he⟩; exact .inr ⟨_, he, l, rfl, hp, hs, rfl⟩
  · intro acc e y
    unfold stepFn
    cases e.lbl with
    | none => simp
    | some l => by_cases hp : p l = true <;> by_cases hs : e.src ∈ S <;> simp [hp, hs, mem_insertNew]


theorem mem_expand (es : List Edge) (S : List Nat) (y : Nat) :
    y ∈ expand false es S ↔ y ∈ S ∨ ∃ x ∈ S, (⟨x, none, y⟩ : Edge) ∈ es := by
  unfold expand; rw [mem_unionNew, mem_epsSucc]

theorem stepOn_ne_nil (es : List Edge) (S : List Nat) (p : String → Bool) :
    stepOn es S p ≠ [] ↔ ∃ x ∈ S, ∃ l y, p l = true ∧ (⟨x, some l, y⟩ : Edge) ∈ es :=
  ⟨fun h => let ⟨y, hy⟩ := List.exists_mem_of_ne_nil _ h
            let ⟨x, hx, l, hl, he⟩ := (mem_stepOn es S p y).1 hy; ⟨x, hx, l, y, hl, he⟩,
   fun ⟨x, hx, l, y, hl, he⟩ => List.ne_nil_of_mem ((mem_stepOn es S p y).2 ⟨x, hx, l, hl, he⟩)⟩

theorem mem_insertStr (acc : List String) (x y : String) : y ∈ insertStr acc x ↔ y ∈ acc ∨ y = x := by
  unfold insertStr
  split
  · rename_i h; exact ⟨.inl, fun h' => h'.elim id fun e => e ▸ List.contains_iff_mem.1 h⟩
  · simp

theorem mem_labels (es : List Edge) (S : List Nat) (l : String) :
    l ∈ es.foldl (labelFn S) [] ↔ ∃ x ∈ S, ∃ y, (⟨x, some l, y⟩ : Edge) ∈ es := by
  rw [mem_foldl_of_step (P := fun e l => e.lbl = some l ∧ e.src ∈ S)]
  · constructor
    · rintro (h | ⟨⟨x, _, y⟩, he, rfl, hs⟩)
      · cases h
      · exact ⟨x, hs, y, he⟩
    · rintro ⟨x, hs, y, he⟩; exact .inr ⟨_, he, rfl, hs⟩
  · intro acc e l
    unfold labelFn
    cases e.lbl with
    | none => simp
    | some l' => by_cases hs : e.src ∈ S <;> simp [hs, mem_insertStr, eq_comm]

/-! ### counting argument: `numNodes` rounds reach the fixpoint -/

def cnt (p : Nat → Bool) : Nat → Nat
  | 0 => 0
  | n + 1 => cnt p n + (if p n then 1 else 0)

theorem cnt_le (p : Nat → Bool) : ∀ n, cnt p n ≤ n := by
  intro n; induction n with
  | zero => simp [cnt]
  | succ n ih => simp only [cnt]; split <;> omega

theorem cnt_mono (p p' : Nat → Bool) : ∀ n, (∀ x, x < n → p x = true → p' x = true) → cnt p n ≤ cnt p' n := by
  intro n; induction n with
  | zero => intro _; simp [cnt]
  | succ n ih =>
    intro h
    have := ih (fun x hx => h x (by omega))
    simp only [cnt]
    by_cases hp : p n = true
    · have := h n (by omega) hp; simp [hp, this]; omega
    · simp only [hp, Bool.false_eq_true, if_false]; split <;> omega

theorem cnt_strict (p p' : Nat → Bool) : ∀ n, (∀ x, x < n → p x = true → p' x = true) →
    (∃ x, x < n ∧ p' x = true ∧ p x = false) → cnt p n < cnt p' n := by
  intro n; induction n with
  | zero => intro _ ⟨x, hx, _⟩; omega
  | succ n ih =>
    intro h ⟨x, hx, hx1, hx2⟩
    simp only [cnt]
    have hm := cnt_mono p p' n (fun y hy => h y (by omega))
    by_cases hxn : x = n
    · subst hxn; simp [hx1, hx2]; omega
    · have := ih (fun y hy => h y (by omega)) ⟨x, by omega, hx1, hx2⟩
      by_cases hp : p n = true
      · have := h n (by omega) hp; simp [hp, this]; omega
      · simp only [hp, Bool.false_eq_true, if_false]; split <;> omega

/-- node lists whose members are all below `N` and an edge list with endpoints below `N` -/
structure Bounded (es : List Edge) (N : Nat) : Prop where
  edges : ∀ e ∈ es, e.src < N ∧ e.dst < N

/-- `X` is closed under ε-edges -/
def Closed (es : List Edge) (X : List Nat) : Prop := ∀ x ∈ X, ∀ y, (⟨x, none, y⟩ : Edge) ∈ es → y ∈ X

theorem unionNew_of_subset : ∀ (m l : List Nat), (∀ y ∈ m, y ∈ l) → unionNew l m = l
  | [], _, _ => rfl
  | x :: m, l, h => by
    have hx : insertNew l x = l := if_pos (List.contains_iff_mem.2 (h x List.mem_cons_self))
    unfold unionNew
    rw [List.foldl_cons, hx]
    exact unionNew_of_subset m l fun y hy => h y (List.mem_cons_of_mem _ hy)

/-- a closed set is a fixpoint of `expand` as a list, so further rounds leave it alone -/
theorem expand_of_closed {es : List Edge} {X : List Nat} (hc : Closed es X) : expand false es X = X :=
  unionNew_of_subset _ _ fun y hy => let ⟨x, hx, he⟩ := (mem_epsSucc es X y).1 hy; hc x hx y he

theorem iter_fixed {α : Type} {f : α → α} {x : α} (h : f x = x) : ∀ k, iter f k x = x
  | 0 => rfl
  | k + 1 => by rw [iter, h]; exact iter_fixed h k

theorem expand_bounded {es : List Edge} {N : Nat} (hb : Bounded es N) {S : List Nat}
    (hS : ∀ x ∈ S, x < N) : ∀ y ∈ expand false es S, y < N := by
  intro y hy
  rcases (mem_expand es S y).1 hy with h | ⟨x, _, he⟩
  · exact hS y h
  · exact (hb.edges _ he).2

/-- a round on a set that is not closed adds a node (below `N`) -/
theorem expand_grows {es : List Edge} {N : Nat} (hb : Bounded es N) {S : List Nat}
    (hc : ¬ Closed es S) :
    cnt (fun x => S.contains x) N < cnt (fun x => (expand false es S).contains x) N := by
  simp only [Closed, Classical.not_forall] at hc
  obtain ⟨x, hx, y, he, hy⟩ := hc
  refine cnt_strict _ _ N (fun z _ hz => ?_) ⟨y, (hb.edges _ he).2, ?_, by simpa using hy⟩
  · simp only [List.contains_iff_mem] at hz ⊢; exact (mem_expand es S z).2 (.inl hz)
  · simp only [List.contains_iff_mem]; exact (mem_expand es S y).2 (.inr ⟨x, hx, he⟩)

/-- pigeonhole: every round before the fixpoint adds one of the `N` nodes, so `k` rounds from a
    set holding all but `k` of them end in a closed set -/
theorem iter_expand_closed {es : List Edge} {N : Nat} (hb : Bounded es N) : ∀ (k : Nat) (S : List Nat),
    (∀ x ∈ S, x < N) → N ≤ k + cnt (fun x => S.contains x) N → Closed es (iter (expand false es) k S) := by
  intro k
  induction k with
  | zero =>
    intro S hS h
    show Closed es S
    apply Classical.byContradiction; intro hc
    have := expand_grows hb hc
    have := cnt_le (fun x => (expand false es S).contains x) N
    omega
  | succ k ih =>
    intro S hS h
    by_cases hc : Closed es S
    · rw [iter_fixed (expand_of_closed hc)]; exact hc
    · exact ih _ (expand_bounded hb hS) (by have := expand_grows hb hc; omega)

theorem subset_iter (es : List Edge) : ∀ (k : Nat) (S : List Nat) (x : Nat), x ∈ S → x ∈ iter (expand false es) k S
  | 0, _, _, h => h
  | k + 1, S, x, h => subset_iter es k _ x ((mem_expand es S x).2 (.inl h))

theorem closed_contains_reach {es : List Edge} {X : List Nat} (hc : Closed es X) {p q : Nat}
    {w : List Sym} (hp : Path mrel es p w q) : w = [] → p ∈ X → q ∈ X := by
  induction hp with
  | nil q => exact fun _ => id
  | eps he _ ih => exact fun hw hx => ih hw (hc _ hx _ he)
  | step _ _ _ _ => intro hw; cases hw

/-- everything in the computed closure is ε-reachable from the seed … -/
theorem closure_sound (es : List Edge) : ∀ (k : Nat) (S : List Nat) (y : Nat),
    y ∈ iter (expand false es) k S → ∃ x ∈ S, EpsStar es x y
  | 0, _, y, h => ⟨y, h, .nil y⟩
  | k + 1, S, y, h => by
    obtain ⟨x', hx', hp⟩ := closure_sound es k _ y h
    rcases (mem_expand es S x').1 hx' with h | ⟨x, hx, he⟩
    · exact ⟨x', h, hp⟩
    · exact ⟨x, hx, .eps he hp⟩

/-- … and `N` rounds find everything that is (pigeonhole) -/
theorem mem_closure (es : List Edge) (N : Nat) (hb : Bounded es N) (S : List Nat)
    (hS : ∀ x ∈ S, x < N) (y : Nat) :
    y ∈ closure false es N S ↔ ∃ x ∈ S, EpsStar es x y :=
  ⟨closure_sound es N S y, fun ⟨x, hx, hp⟩ =>
    closed_contains_reach (iter_expand_closed hb N S hS (Nat.le_add_right ..)) hp rfl (subset_iter es N S x hx)⟩

/-! ### the executable matcher computes the runs of the automaton -/

/-- invariant of a well-formed matcher: directed ε-edges, a fragment with nodes below `next` -/
structure MOk (mt : Matcher) : Prop where
  dir : mt.bidir = false
  bounded : Bounded mt.frag.edges mt.frag.next
  cur : ∀ x ∈ mt.cur, x < mt.frag.next
  nonempty : mt.cur ≠ []

theorem mem_closed (mt : Matcher) (ok : MOk mt) (y : Nat) :
    y ∈ mt.closed ↔ ∃ x ∈ mt.cur, EpsStar mt.frag.edges x y := by
  unfold Matcher.closed; rw [ok.dir]
  exact mem_closure _ _ ok.bounded _ ok.cur y

theorem matchSymbol_isSome (mt : Matcher) (a : String) : (mt.matchSymbol a).isSome = true ↔
    ∃ x ∈ mt.closed, ∃ l y, labelMatches l a = true ∧ (⟨x, some l, y⟩ : Edge) ∈ mt.frag.edges := by
  rw [← stepOn_ne_nil]; unfold Matcher.matchSymbol
  cases stepOn mt.frag.edges mt.closed fun l => labelMatches l a <;> simp

theorem matchSymbol_some {mt mt' : Matcher} {a : String} (h : mt.matchSymbol a = some mt') :
    mt' = { mt with cur := stepOn mt.frag.edges mt.closed fun l => labelMatches l a } ∧ mt'.cur ≠ [] := by
  simp only [Matcher.matchSymbol] at h
  split at h
  · cases h
  · rename_i hne; cases h; exact ⟨rfl, by simpa using hne⟩

/-- one `match_symbol a`: ε-moves, then one edge whose label accepts `a` -/
theorem matchSymbol_spec {mt mt' : Matcher} (ok : MOk mt) {a : String} (h : mt.matchSymbol a = some mt') :
    MOk mt' ∧ mt'.frag = mt.frag ∧ ∀ q, q ∈ mt'.cur ↔ ∃ q0 ∈ mt.cur, ∃ p l,
      EpsStar mt.frag.edges q0 p ∧ (⟨p, some l, q⟩ : Edge) ∈ mt.frag.edges ∧ labelMatches l a = true := by
  obtain ⟨rfl, hne⟩ := matchSymbol_some h
  refine ⟨⟨ok.dir, ok.bounded, fun x hx => ?_, hne⟩, rfl, fun q => ?_⟩
  · obtain ⟨_, _, _, _, he⟩ := (mem_stepOn _ _ _ _).1 hx
    exact (ok.bounded.edges _ he).2
  · show q ∈ stepOn _ _ _ ↔ _
    rw [mem_stepOn]
    constructor
    · rintro ⟨p, hp, l, hl, he⟩
      obtain ⟨q0, h0, hp⟩ := (mem_closed mt ok p).1 hp
      exact ⟨q0, h0, p, l, hp, he, hl⟩
    · rintro ⟨q0, h0, p, l, hp, he, hl⟩
      exact ⟨p, (mem_closed mt ok p).2 ⟨q0, h0, hp⟩, l, hl, he⟩

/-- **the matcher's state**: after the symbols `w` the closed node set holds exactly the nodes
    that a run on `w` reaches -/
theorem run_closed : ∀ (w : List String) {mt mt' : Matcher}, MOk mt → mt.run w = some mt' →
    MOk mt' ∧ mt'.frag = mt.frag ∧
    ∀ q, q ∈ mt'.closed ↔ ∃ q0 ∈ mt.cur, Path mrel mt.frag.edges q0 (w.map .real) q
  | [], mt, _, ok, h => by cases h; exact ⟨ok, rfl, mem_closed mt ok⟩
  | a :: w, mt, mt', ok, h => by
    obtain ⟨mt1, h1, h2⟩ := Option.bind_eq_some_iff.1 h
    obtain ⟨ok1, f1, c1⟩ := matchSymbol_spec ok h1
    obtain ⟨ok', f', c'⟩ := run_closed w ok1 h2
    refine ⟨ok', f'.trans f1, fun q => ?_⟩
    rw [c', f1]
    constructor
    · rintro ⟨q1, hq1, hp⟩
      obtain ⟨q0, h0, p, l, hp0, he, hl⟩ := (c1 q1).1 hq1
      exact ⟨q0, h0, hp0.trans mrel (.step he hl hp)⟩
    · rintro ⟨q0, h0, hp⟩
      obtain ⟨p, l, q1, hp0, he, hl, hp1⟩ := hp.cons_inv mrel rfl
      exact ⟨q1, (c1 q1).2 ⟨q0, h0, p, l, hp0, he, hl⟩, hp1⟩

/-- no `match_symbol` fails while a run on the symbols exists -/
theorem run_isSome_of_path : ∀ (w : List String) {mt : Matcher}, MOk mt → ∀ {q0 q : Nat} {v : List Sym},
    q0 ∈ mt.cur → Path mrel mt.frag.edges q0 (w.map .real ++ v) q → (mt.run w).isSome = true
  | [], _, _, _, _, _, _, _ => rfl
  | a :: w, mt, ok, q0, q, v, h0, hp => by
    obtain ⟨p, l, q1, hp0, he, hl, hp1⟩ := hp.cons_inv mrel rfl
    have hp' := (mem_closed mt ok p).2 ⟨q0, h0, hp0⟩
    obtain ⟨mt1, h1⟩ := Option.isSome_iff_exists.1 ((matchSymbol_isSome mt a).2 ⟨p, hp', l, q1, hl, he⟩)
    obtain ⟨ok1, f1, c1⟩ := matchSymbol_spec ok h1
    rw [Matcher.run, h1]
    exact run_isSome_of_path w ok1 ((c1 q1).2 ⟨q0, h0, p, l, hp0, he, hl⟩) (f1 ▸ hp1)

theorem run_isSome_iff {mt : Matcher} (ok : MOk mt) (w : List String) : (mt.run w).isSome = true ↔
    ∃ q0 ∈ mt.cur, ∃ q, Path mrel mt.frag.edges q0 (w.map .real) q := by
  constructor
  · intro h
    obtain ⟨mt', h'⟩ := Option.isSome_iff_exists.1 h
    obtain ⟨ok', _, c'⟩ := run_closed w ok h'
    obtain ⟨x, hx⟩ := List.exists_mem_of_ne_nil _ ok'.nonempty
    obtain ⟨q0, h0, hp⟩ := (c' x).1 ((mem_closed mt' ok' x).2 ⟨x, hx, .nil x⟩)
    exact ⟨q0, h0, x, hp⟩
  · rintro ⟨q0, h0, q, hp⟩
    exact run_isSome_of_path w ok h0 (v := []) (by simpa using hp)

/-! ### `is_complete` and `valid_next_symbols` in terms of the closed node set -/

theorem isComplete_iff (mt : Matcher) : mt.isComplete = true ↔ mt.frag.final ∈ mt.closed ∨
    ∃ x ∈ mt.closed, ∃ y, (⟨x, some END, y⟩ : Edge) ∈ mt.frag.edges := by
  unfold Matcher.isComplete
  simp only [Bool.or_eq_true, List.contains_iff_mem, Bool.not_eq_true', ← Bool.not_eq_true, List.isEmpty_iff]
  refine or_congr Iff.rfl ((stepOn_ne_nil ..).trans ?_)
  simp

theorem mem_validNext (mt : Matcher) (l : String) : l ∈ mt.validNext ↔
    (∃ x ∈ mt.closed, ∃ y, (⟨x, some l, y⟩ : Edge) ∈ mt.frag.edges) ∨ (l = END ∧ mt.isComplete = true) := by
  unfold Matcher.validNext
  split <;> simp [mem_insertStr, mem_labels, *]

/-- a symbol is covered by the listed set iff `match_symbol` takes it; the end marker is listed iff
    the matcher is complete.  This holds in every state, reachable or not. -/
theorem validNext_exact (mt : Matcher) (a : String) (ha : a ≠ END) :
    ((∃ l ∈ mt.validNext, labelMatches l a = true) ↔ (mt.matchSymbol a).isSome = true) ∧
    (END ∈ mt.validNext ↔ mt.isComplete = true) := by
  constructor
  · rw [matchSymbol_isSome]
    constructor
    · rintro ⟨l, hl, hm⟩
      rcases (mem_validNext mt l).1 hl with ⟨x, hx, y, he⟩ | ⟨rfl, _⟩
      · exact ⟨x, hx, l, y, hm, he⟩
      · exact absurd hm (by simp [labelMatches, END, WILDCARD]; exact fun h => ha h)
    · rintro ⟨x, hx, l, y, hm, he⟩
      exact ⟨l, (mem_validNext mt l).2 (.inl ⟨x, hx, y, he⟩), hm⟩
  · rw [mem_validNext, isComplete_iff]
    exact ⟨fun h => h.elim .inr And.right, fun h => .inr ⟨rfl, h⟩⟩

end VC2.Proofs.SymRe
