/-
  Shift invariance of the stream-structure model: only differences of byte offsets are ever
  observed, and the list of already decoded pictures is only appended to.  (Used by C10.)
-/
import VC2.Proofs.Stream
namespace VC2.Proofs.Stream
open VC2 VC2.Model.SymRe VC2.Model.Stream


def shiftS (p : Nat) (d : List Nat) (s : VState) : VState :=
  { s with pos := s.pos + p, lastPI := s.lastPI.map (· + p), initFragOffset := s.initFragOffset.map (· + p),
           decoded := d ++ s.decoded }

def mapOk {α β : Type} (f : α → β) : M α → M β
  | .ok a => .ok (f a)
  | .error e => .error e

theorem mapOk_bind {α β γ : Type} (m : M α) (k : α → M β) (f : β → γ) :
    mapOk f (m >>= k) = m >>= fun a => mapOk f (k a) := by cases m <;> rfl
theorem mapOk_pure {α β : Type} (x : α) (f : α → β) : mapOk f (pure x : M α) = pure (f x) := rfl
theorem bind_mapOk {α β γ : Type} (m : M α) (f : α → β) (k : β → M γ) :
    (mapOk f m >>= k) = m >>= fun a => k (f a) := by cases m <;> rfl

theorem checkLastNext_shift (p : Nat) (d : List Nat) (s : VState) :
    checkLastNext (shiftS p d s) = checkLastNext s := by
  unfold checkLastNext
  cases hl : s.lastPI with
  | none => simp only [shiftS, hl, Option.map_none]; rfl
  | some last => simp only [shiftS, hl, Option.map_some, getOrCrash, pure_bind, Nat.add_sub_add_right]

theorem parseInfo_shift (p : Nat) (d : List Nat) (s : VState) (u : DUnit) :
    parseInfo (shiftS p d s) u = mapOk (shiftS p d) (parseInfo s u) := by
  unfold parseInfo
  rw [checkLastNext_shift]
  simp only [mapOk_bind, mapOk_pure]
  cases hl : s.lastPI with
  | none => simp only [shiftS, hl, Option.map_none]; rfl
  | some last => simp only [shiftS, hl, Option.map_some, Nat.add_sub_add_right]

theorem pictureNumberCheck_shift (p : Nat) (d : List Nat) (s : VState) (n : Nat) :
    pictureNumberCheck (shiftS p d s) n = mapOk (shiftS p d) (pictureNumberCheck s n) := by
  unfold pictureNumberCheck
  simp only [mapOk_bind, mapOk_pure]
  rfl

theorem headerPayload_shift (cfg : Config) (p : Nat) (d : List Nat) (s : VState) (u : DUnit) :
    headerPayload cfg (shiftS p d s) u = mapOk (shiftS p d) (headerPayload cfg s u) := by
  unfold headerPayload
  simp only [mapOk_bind, mapOk_pure]
  rfl

theorem mapOk_ite {α β : Type} (c : Prop) [Decidable c] (a b : M α) (f : α → β) :
    mapOk f (if c then a else b) = if c then mapOk f a else mapOk f b := by split <;> rfl
theorem mapOk_rej {α β : Type} (cls : String) (f : α → β) : mapOk f (rej cls : M α) = rej cls := rfl
theorem mapOk_crash {α β : Type} (w : String) (f : α → β) : mapOk f (crash w : M α) = crash w := rfl

theorem getOrCrash_map {β : Type} (x : Option Nat) (f : Nat → Nat) (w : String) (k : M β) :
    (getOrCrash (x.map f) w >>= fun _ => k) = (getOrCrash x w >>= fun _ => k) := by
  cases x <;> rfl

theorem dataFragment_shift (p : Nat) (d : List Nat) (s : VState) (u : DUnit) :
    dataFragment (shiftS p d s) u = mapOk (shiftS p d) (dataFragment s u) := by
  unfold dataFragment
  simp only [mapOk_bind, mapOk_pure, mapOk_ite, mapOk_rej, mapOk_crash]
  have hd : ∀ (c : Bool) (n : Nat), d ++ (if c = true then s.decoded ++ [n] else s.decoded) =
      if c = true then (d ++ s.decoded) ++ [n] else d ++ s.decoded := by
    intro c n; cases c <;> simp
  simp only [shiftS, getOrCrash_map, hd]
  rfl

theorem payload_shift (cfg : Config) (p : Nat) (d : List Nat) (s : VState) (u : DUnit) :
    payload cfg (shiftS p d s) u = mapOk (shiftS p d) (payload cfg s u) := by
  have hfr : (shiftS p d s).fragRemaining = s.fragRemaining := rfl
  unfold payload
  cases u.kind with
  | seqHdr => exact headerPayload_shift cfg p d s u
  | picture =>
    simp only [pictureNumberCheck_shift, mapOk_bind, mapOk_pure, bind_mapOk, hfr]
    simp only [shiftS, List.append_assoc]
  | fragment =>
    simp only [mapOk_ite, pictureNumberCheck_shift, dataFragment_shift, mapOk_bind, mapOk_pure, bind_mapOk, hfr]
    simp only [shiftS, Option.map_some]
  | aux => rfl
  | padding => rfl
  | eos => rfl

theorem endOfSequence_shift (p : Nat) (d : List Nat) (s : VState) :
    endOfSequence (shiftS p d s) = endOfSequence s := rfl

theorem fresh_shift (p q : Nat) (d e : List Nat) :
    shiftS p d (VState.fresh q e) = VState.fresh (q + p) (d ++ e) := rfl

theorem step_shift (cfg : Config) (p : Nat) (d : List Nat) (s : VState) (u : DUnit) :
    step cfg (shiftS p d s) u =
      match step cfg s u with
      | .error r => .error (r.1, d ++ r.2)
      | .ok s' => .ok (shiftS p d s') := by
  have hpos : (shiftS p d s).pos + u.len = s.pos + u.len + p := by simp [shiftS]; omega
  unfold step
  rw [parseInfo_shift, hpos]
  cases parseInfo s u with
  | error e => rfl
  | ok s1 =>
    simp only [mapOk, endOfSequence_shift, payload_shift]
    split
    · cases endOfSequence s1 <;> rfl
    · split
      · rfl
      · cases payload cfg s1 u <;> rfl

/-- shifting all offsets and prepending already-decoded pictures changes nothing else -/
theorem run_shift (cfg : Config) (p : Nat) (d : List Nat) : ∀ (us : List DUnit) (s : VState),
    run cfg (shiftS p d s) us = ((run cfg s us).1, d ++ (run cfg s us).2) := by
  intro us
  induction us with
  | nil =>
    intro s
    have : (shiftS p d s).lastPI.isNone = s.lastPI.isNone := by cases h : s.lastPI <;> simp [shiftS, h]
    rw [run_nil, run_nil, checkLastNext_shift, this]
    split
    · rfl
    · cases checkLastNext s <;> rfl
  | cons u rest ih =>
    intro s
    rw [run_step, run_step, step_shift]
    cases step cfg s u with
    | error r => rfl
    | ok s' => exact ih s'

end VC2.Proofs.Stream
