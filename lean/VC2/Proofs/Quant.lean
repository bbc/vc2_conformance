/-
  Helper lemmas for C12 (quantisation).  Core Lean only.
-/
import VC2.Gen.Kernels
namespace VC2.Proofs.Quant
open VC2 VC2.Gen

theorem pydiv4 (i : Int) : pydiv i 4 = i / 4 := pydiv_pos i 4 (by decide)
theorem pymod4 (i : Int) : pymod i 4 = i % 4 := pymod_pos i 4 (by decide)

/-- `2 ^ k ≤ 2 ** n` for `k ≤ n` -/
theorem le_pypow_two (k : Nat) (n : Int) (h : (k : Int) ≤ n) : (2 : Int) ^ k ≤ pypow 2 n := by
  have : k ≤ n.toNat := by omega
  unfold pypow
  exact_mod_cast Nat.pow_le_pow_right (by decide : 0 < 2) this

/-! ### The quantisation factor by residue and base -/

/-- `quant_factor i` as a function of the residue `r = i % 4` and the base `b = 2 ** (i // 4)` -/
def factor (r b : Int) : Int :=
  if r = 0 then 4 * b
  else if r = 1 then (503829 * b + 52958) / 105917
  else if r = 2 then (665857 * b + 58854) / 117708
  else (440253 * b + 32722) / 65444

theorem quant_factor_eq (i : Int) : quant_factor i = factor (i % 4) (pypow 2 (i / 4)) := by
  unfold quant_factor factor
  simp only [pydiv4, pymod4, pydiv_pos _ 105917 (by decide), pydiv_pos _ 117708 (by decide),
    pydiv_pos _ 65444 (by decide)]
  have h : i % 4 = 0 ∨ i % 4 = 1 ∨ i % 4 = 2 ∨ i % 4 = 3 := by omega
  rcases h with h | h | h | h <;> simp [h]

theorem base_le_factor (r b : Int) (hb : 0 ≤ b) : 4 * b ≤ factor r b := by
  unfold factor
  by_cases h0 : r = 0
  · rw [if_pos h0]; omega
  · rw [if_neg h0]
    by_cases h1 : r = 1
    · rw [if_pos h1]; omega
    · rw [if_neg h1]
      by_cases h2 : r = 2
      · rw [if_pos h2]; omega
      · rw [if_neg h2]; omega

/-- One index step: the next residue at the same base or, from residue 3, residue 0 at twice the
    base.  The factor grows, and from base 4 on by at least 3. -/
theorem factor_step (r b : Int) (hr : 0 ≤ r) (hr3 : r ≤ 3) (hb : 1 ≤ b) :
    factor r b < (if r = 3 then factor 0 (2 * b) else factor (r + 1) b) ∧
    (4 ≤ b → factor r b + 3 ≤ (if r = 3 then factor 0 (2 * b) else factor (r + 1) b)) := by
  have h : r = 0 ∨ r = 1 ∨ r = 2 ∨ r = 3 := by omega
  rcases h with h | h | h | h <;> subst h <;> simp [factor]
  · omega
  · -- from residue 1 to 2 `omega` needs the base 1 apart: there the rounding decides
    by_cases hb1 : b = 1
    · subst hb1; decide
    · omega
  · omega
  · omega

theorem quant_factor_succ (i : Int) (hi : 0 ≤ i) :
    quant_factor (i + 1) =
      if i % 4 = 3 then factor 0 (2 * pypow 2 (i / 4)) else factor (i % 4 + 1) (pypow 2 (i / 4)) := by
  rw [quant_factor_eq]
  by_cases h : i % 4 = 3
  · have ⟨e1, e2⟩ : (i + 1) % 4 = 0 ∧ (i + 1) / 4 = i / 4 + 1 := by omega
    rw [if_pos h, e1, e2, pypow_two_succ _ (by omega)]
  · have ⟨e1, e2⟩ : (i + 1) % 4 = i % 4 + 1 ∧ (i + 1) / 4 = i / 4 := by omega
    rw [if_neg h, e1, e2]

theorem quant_factor_step (i : Int) (hi : 0 ≤ i) :
    quant_factor i < quant_factor (i + 1) ∧ (8 ≤ i → quant_factor i + 3 ≤ quant_factor (i + 1)) := by
  rw [quant_factor_succ i hi, quant_factor_eq i]
  have ⟨a, b⟩ := factor_step (i % 4) (pypow 2 (i / 4)) (by omega) (by omega) (pypow_two_pos _)
  exact ⟨a, fun h8 => b (by simpa using le_pypow_two 2 (i / 4) (by omega))⟩

/-- `quant_factor(i) ≥ 4 · 2^(i // 4)` -/
theorem quant_factor_ge_base (i : Int) : 4 * pypow 2 (i / 4) ≤ quant_factor i := by
  rw [quant_factor_eq]; exact base_le_factor _ _ (Int.le_of_lt (pypow_two_pos _))

theorem quant_factor_ge_4' (i : Int) : 4 ≤ quant_factor i := by
  have := quant_factor_ge_base i
  have := pypow_two_pos (i / 4)
  omega

theorem qf_0 : quant_factor 0 = 4 := by decide
theorem qf_1 : quant_factor 1 = 5 := by decide

/-- the factor outgrows the index -/
theorem index_add_four_le (n : Nat) : (n : Int) + 4 ≤ quant_factor n := by
  induction n with
  | zero => decide
  | succ n ih =>
    have := (quant_factor_step n (by omega)).1
    rw [show ((n + 1 : Nat) : Int) = (n : Int) + 1 by omega]; omega

theorem qf_ge_6 (i : Int) (hi : 2 ≤ i) : 6 ≤ quant_factor i := by
  have := index_add_four_le i.toNat
  rw [Int.toNat_of_nonneg (by omega)] at this
  omega

/-! ### Equations of the generated kernels -/

theorem sign_eq (a : Int) : sign a = if 0 < a then 1 else if a = 0 then 0 else -1 := by
  unfold sign
  by_cases h1 : a > 0
  · simp [h1]
  · by_cases h2 : a = 0
    · simp [h2]
    · have : a < 0 := by omega
      simp [h1, h2, this]

theorem forward_quant_nonneg (x i : Int) (hx : 0 ≤ x) :
    forward_quant x i = (4 * x) / quant_factor i := by
  unfold forward_quant
  have hq := quant_factor_ge_4' i
  have : pyabs x = x := by unfold pyabs; split <;> omega
  simp only [this, ge_iff_le, hx, if_true]
  exact pydiv_pos _ _ (by omega)

theorem forward_quant_neg (x i : Int) (hx : x < 0) :
    forward_quant x i = -((4 * (-x)) / quant_factor i) := by
  unfold forward_quant
  have hq := quant_factor_ge_4' i
  have : pyabs x = -x := by unfold pyabs; split <;> omega
  have h2 : ¬ (0 ≤ x) := by omega
  simp only [this, ge_iff_le, h2, if_false]
  rw [pydiv_pos _ _ (by omega)]

theorem forward_quant_neg_sym (x i : Int) (hx : x < 0) :
    forward_quant x i = -(forward_quant (-x) i) := by
  rw [forward_quant_neg x i hx, forward_quant_nonneg (-x) i (by omega)]

theorem inverse_quant_pos (q i : Int) (hq : 0 < q) :
    inverse_quant q i = (q * quant_factor i + quant_offset i + 2) / 4 := by
  unfold inverse_quant
  have : pyabs q = q := by unfold pyabs; split <;> omega
  have h2 : q ≠ 0 := by omega
  simp only [this, ne_eq, h2, not_false_eq_true, if_true, sign_eq, hq, pydiv4]
  omega

theorem inverse_quant_zero (i : Int) : inverse_quant 0 i = 0 := by
  unfold inverse_quant
  have : pyabs 0 = 0 := by decide
  simp [this, sign_eq]

theorem inverse_quant_nonneg (q i : Int) (hq : 0 ≤ q) :
    inverse_quant q i = if q = 0 then 0 else (q * quant_factor i + quant_offset i + 2) / 4 := by
  by_cases h : q = 0
  · rw [if_pos h, h, inverse_quant_zero]
  · rw [if_neg h, inverse_quant_pos q i (by omega)]

theorem inverse_quant_odd (q i : Int) : inverse_quant (-q) i = -(inverse_quant q i) := by
  have hs : sign (-q) = -sign q := by
    rcases Int.lt_trichotomy 0 q with h | h | h
    · simp [sign_eq, h]; omega
    · subst h; decide
    · simp [sign_eq, h]; omega
  have ha : pyabs (-q) = pyabs q := by rw [pyabs_eq, pyabs_eq, Int.natAbs_neg]
  unfold inverse_quant
  simp only [hs, ha]
  split <;> rw [Int.neg_mul]

theorem quant_offset_eq (i : Int) :
    quant_offset i = if i = 0 then 1 else if i = 1 then 2 else (quant_factor i + 1) / 2 := by
  unfold quant_offset
  split
  · rfl
  · split
    · rfl
    · exact pydiv_pos _ 2 (by decide)

/-- all that the reconstruction bound needs of the offset -/
theorem quant_offset_bounds (i : Int) (hi : 0 ≤ i) :
    0 < quant_offset i ∧ quant_offset i + 2 < quant_factor i := by
  rw [quant_offset_eq]
  split
  · next h => rw [h, qf_0]; decide
  · split
    · next h => rw [h, qf_1]; decide
    · have := qf_ge_6 i (by omega); omega

/-! ### Reconstruction -/

/-- Quantising `x ≥ 0` to `q = 4x / qf` and dequantising with any offset `0 < off < qf - 2`:
    the error is below a quarter of the factor, and zero stays zero. -/
theorem recon_core (qf off x q : Int) (ho : 0 < off) (hoq : off + 2 < qf) (hq0 : 0 ≤ q)
    (h1 : q * qf ≤ 4 * x) (h2 : 4 * x < q * qf + qf) :
    4 * ((if q = 0 then 0 else (q * qf + off + 2) / 4) - x) < qf ∧
    4 * (x - (if q = 0 then 0 else (q * qf + off + 2) / 4)) < qf ∧
    0 ≤ (if q = 0 then 0 else (q * qf + off + 2) / 4) ∧
    (x = 0 → (if q = 0 then 0 else (q * qf + off + 2) / 4) = 0) := by
  by_cases hq : q = 0
  · rw [if_pos hq]; rw [hq, Int.zero_mul] at h1 h2
    exact ⟨by omega, by omega, Int.le_refl _, fun _ => rfl⟩
  · -- the quantised value is at least 1, so `q * qf ≥ qf`
    have h3 : 1 * qf ≤ q * qf := Int.mul_le_mul_of_nonneg_right (by omega) (by omega)
    rw [if_neg hq]
    omega

/-- reconstruction of a non-negative coefficient, every index ≥ 0 -/
theorem recon_nonneg (i x : Int) (hi : 0 ≤ i) (hx : 0 ≤ x) :
    let r := inverse_quant (forward_quant x i) i
    4 * (r - x) < quant_factor i ∧ 4 * (x - r) < quant_factor i ∧ 0 ≤ r ∧ (x = 0 → r = 0) := by
  have hqf : 0 < quant_factor i := Int.lt_of_lt_of_le (by decide) (quant_factor_ge_4' i)
  have ⟨ho, hoq⟩ := quant_offset_bounds i hi
  have hq0 : 0 ≤ 4 * x / quant_factor i := Int.ediv_nonneg (by omega) (Int.le_of_lt hqf)
  simp only [forward_quant_nonneg x i hx, inverse_quant_nonneg _ i hq0]
  exact recon_core _ _ x _ ho hoq hq0 (Int.ediv_mul_le _ (Int.ne_of_gt hqf))
    (by have := Int.lt_ediv_add_one_mul_self (4 * x) hqf; rwa [Int.add_mul, Int.one_mul] at this)

/-- the round trip is odd in `x`: the case `x < 0` is the case `-x` -/
theorem recon_neg (i x : Int) (hx : x < 0) :
    inverse_quant (forward_quant x i) i = -inverse_quant (forward_quant (-x) i) i := by
  rw [forward_quant_neg_sym x i hx, inverse_quant_odd]

/-! ### The dequantised value of 1 -/

/-- dequantised value of 1 as a function of the factor (indices ≥ 2) -/
def f1 (qf : Int) : Int := (qf + (qf + 1) / 2 + 2) / 4

theorem iq1_eq (i : Int) (hi : 2 ≤ i) : inverse_quant 1 i = f1 (quant_factor i) := by
  rw [inverse_quant_pos 1 i (by decide), quant_offset_eq]
  have h0 : ¬ i = 0 := by omega
  have h1 : ¬ i = 1 := by omega
  simp only [h0, h1, if_false, f1]; omega

/-- a factor larger by 3 dequantises 1 to a larger value -/
theorem f1_lt (a c : Int) (h : a + 3 ≤ c) : f1 a < f1 c := by
  unfold f1; omega

end VC2.Proofs.Quant
