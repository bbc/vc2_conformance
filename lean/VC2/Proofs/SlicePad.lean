/- Helper lemmas for the slice-padding fillers (C05).  Core Lean only. -/
import VC2.Model.SlicePad
import VC2.Proofs.FileFormat
import VC2.Proofs.IntDiv
namespace VC2.Proofs.SlicePad
open VC2 VC2.Gen VC2.Model.SlicePad

theorem byteBits_length (b : Nat) : (byteBits b).length = 8 := by simp [byteBits]

theorem flatMap_byteBits_length (l : List Nat) : (l.flatMap byteBits).length = 8 * l.length := by
  induction l with
  | nil => rfl
  | cons a as ih => simp only [List.flatMap_cons, List.length_append, byteBits_length, ih, List.length_cons]; omega

theorem flatten_replicate_length (r : Nat) (l : List Nat) : ((List.replicate r l).flatten).length = r * l.length := by
  induction r with
  | zero => simp
  | succ r ih => simp only [List.replicate_succ, List.flatten_cons, List.length_append, ih]; rw [Nat.succ_mul]; omega

/-- the generated padding has exactly the requested length -/
theorem filledPadding_length (n : Nat) (filler : List Nat) (a : Int) (hf : filler ≠ []) :
    (filledPadding n filler a).length = n := by
  unfold filledPadding
  simp only [List.length_take, List.length_append, List.length_replicate, flatMap_byteBits_length, flatten_replicate_length]
  apply Nat.min_eq_left
  have hl : 0 < (filler.length : Int) := by
    have : 0 < filler.length := List.length_pos_iff.mpr hf
    omega
  generalize (pymod (8 - pymod a 8) 8).toNat = A
  -- `n - A ≤ 8 · R` for the `R` bytes required and `R ≤ Q · length` for the `Q` repeats
  have h1 := ceil_mul_ge ((n : Int) - A) (by decide : (0 : Int) < 8)
  rw [show (n : Int) - A + 8 - 1 = (n : Int) - A + 7 by omega] at h1
  generalize pydiv ((n : Int) - A + 7) 8 = R at h1 ⊢
  have h2 := ceil_mul_ge R hl
  generalize pydiv (R + (filler.length : Int) - 1) filler.length = Q at h2 ⊢
  have h3 := Int.mul_le_mul_of_nonneg_right (Int.self_le_toNat Q) (Int.le_of_lt hl)
  have h4 := Int.natCast_mul Q.toNat filler.length
  omega

/-- the callers' guard `if padding_bits > 0` around the generator -/
theorem guarded_padding_length (p : Int) (f : List Nat) (a : Int) (hf : f ≠ []) :
    (((if p > 0 then filledPadding p.toNat f a else []).length : Nat) : Int) = if p > 0 then p else 0 := by
  split
  · rw [filledPadding_length _ _ _ hf, Int.toNat_of_nonneg (by omega)]
  · rfl

/-- intlog2 of a number ≥ 2 is at least 1; of a number ≥ 1 at least 0 -/
theorem intlog2_pos (n : Nat) (hn : 2 ≤ n) : 1 ≤ intlog2 (n : Int) := by
  unfold intlog2 bitLength
  have hne : ((n : Int) - 1) ≠ 0 := by omega
  simp only [hne, if_false]
  omega

theorem intlog2_nonneg (n : Int) : 0 ≤ intlog2 n := by
  unfold intlog2 bitLength
  split <;> omega

/-- everything the fillers need to know about `intlog2` of a positive number -/
theorem intlog2_facts (n : Nat) (hn : 1 ≤ n) :
    ∃ k : Nat, intlog2 (n : Int) = (k : Int) ∧ n ≤ 2 ^ k ∧ k ≤ n ∧ (2 ≤ n → 1 ≤ k) := by
  have h0 := intlog2_nonneg (n : Int)
  refine ⟨(intlog2 (n : Int)).toNat, (Int.toNat_of_nonneg h0).symm, VC2.Proofs.FileFormat.two_pow_intlog2_ge n hn, ?_, ?_⟩
  · by_cases h2 : 2 ≤ n
    · have hlt := VC2.Proofs.FileFormat.two_pow_intlog2_lt n h2
      have hp := intlog2_pos n h2
      have hp' : 1 ≤ (intlog2 (n : Int)).toNat := by omega
      generalize (intlog2 (n : Int)).toNat = k at *
      obtain ⟨m, rfl⟩ : ∃ m, k = m + 1 := ⟨k - 1, by omega⟩
      rw [Nat.pow_succ] at hlt
      have : m < 2 ^ m := Nat.lt_two_pow_self
      omega
    · have : n = 1 := by omega
      subst this
      decide
  · intro h2
    have := intlog2_pos n h2
    omega

end VC2.Proofs.SlicePad
