/- C21/C06: the serialiser/deserialiser framework round trip, for any `Codec`: bookkeeping of keys (`Disj`), of the bits
   a bounded block leaves (`RealOf`), serialise-then-deserialise by mutual induction over programs; at the end, the C20
   bit codec is a prefix code.  The converse induction is in SerdesTree.lean.  Core Lean only. -/
import VC2.Model.SerdesCodec
import VC2.Props.C20
namespace VC2.Proofs.Serdes
open VC2 VC2.Model.Serdes VC2.Model.BitIO

def Disj (d acc : Dict) : Prop := ∀ k, d.has k = true → acc.has k = false

@[simp] theorem has_nil (k : String) : Dict.has [] k = false := rfl

@[simp] theorem has_cons (x : String × Val) (d : Dict) (k : String) :
    Dict.has (x :: d) k = (x.1 == k || d.has k) := by
  simp [Dict.has]

@[simp] theorem has_app (a b : Dict) (k : String) : (a ++ b).has k = (a.has k || b.has k) := by
  simp [Dict.has]

theorem get?_has {d : Dict} {t : String} {v : Val} (h : d.get? t = some v) : d.has t = true := by
  unfold Dict.get? at h
  unfold Dict.has
  cases hf : d.find? (·.1 == t) with
  | none => rw [hf] at h; cases h
  | some x => exact List.any_eq_true.2 ⟨x, List.mem_of_find?_eq_some hf, by simpa using List.find?_some hf⟩

@[simp] theorem has_erase (d : Dict) (t k : String) : (d.erase t).has k = (d.has k && k != t) := by
  unfold Dict.has Dict.erase
  induction d with
  | nil => simp
  | cons x xs ih =>
    rw [List.filter_cons]
    by_cases hx : (x.1 != t) = true
    · rw [if_pos hx, List.any_cons, List.any_cons, ih]
      by_cases hk : x.1 = k
      · subst hk; simp [hx]
      · have : (x.1 == k) = false := by simpa using hk
        simp [this]
    · rw [if_neg hx, List.any_cons, ih]
      have hxt : x.1 = t := by simpa using hx
      by_cases hk : x.1 = k
      · have : k = t := by rw [← hk, hxt]
        subst this; simp
      · have : (x.1 == k) = false := by simpa using hk
        simp [this]

theorem disj_nil (d : Dict) : Disj d [] := fun _ _ => rfl

theorem disj_step {d acc : Dict} (t : String) (v : Val) (hd : Disj d acc) : Disj (d.erase t) (acc ++ [(t, v)]) := by
  intro k hk
  simp only [has_erase, Bool.and_eq_true, bne_iff_ne] at hk
  simp [hd k hk.1, Ne.symm hk.2]

theorem disj_get {d acc : Dict} {t : String} {w : Val} (hd : Disj d acc) (hg : d.get? t = some w) : acc.has t = false :=
  hd t (get?_has hg)

theorem disj_fetch {d acc : Dict} {t : String} {dflt w : Val} (hd : Disj d acc) (hg : fetch d acc t dflt = some w) :
    acc.has t = false := by
  unfold fetch at hg
  split at hg
  · exact disj_get hd ‹_›
  · split at hg
    · cases hg
    · simpa using ‹¬ acc.has t = true›

def Sound (C : Codec) : Prop := ∀ k v b rest, C.enc k v = some b → C.dec k (b ++ rest) = some (v, rest)

/-- the 1-bits at the end of a code word are at most `virt k` -/
def OnesBound (C : Codec) : Prop :=
  ∀ k v b n, C.enc k v = some b → (b.drop n).all id = true → (b.drop n).length ≤ C.virt k

/-- a codec whose reader accepts only what its writer writes: the bits consumed are exactly the
    encoding of the value returned -/
def CompleteAt (C : Codec) (k : Prim) : Prop :=
  ∀ bits v rest, C.dec k bits = some (v, rest) → ∃ used, C.enc k v = some used ∧ bits = used ++ rest

/-- `real` is what is left of the written bits `b` (followed by `rest`) when a bounded block ends
    after the first `n` of them: the bits past the end are all 1 and are not stored -/
def Cut (b real rest : List Bool) : Prop :=
  ∃ n, n ≤ b.length ∧ real = b.take n ++ rest ∧ (b.drop n).all id = true ∧ (n < b.length → rest = [])

def RealOf (blk : Bool) (b real rest : List Bool) : Prop :=
  if blk then Cut b real rest else real = b ++ rest

@[simp] theorem realOf_false {b real rest : List Bool} : RealOf false b real rest ↔ real = b ++ rest := Iff.rfl

theorem all_id_append (a b : List Bool) : (a ++ b).all id = true ↔ a.all id = true ∧ b.all id = true := by
  simp [List.all_append]

/-- inside a block, either all of `b` is there, or `b` is what is there followed by 1-bits (and nothing else follows) -/
theorem realOf_true {b real rest : List Bool} :
    RealOf true b real rest ↔ real = b ++ rest ∨ rest = [] ∧ ∃ o, b = real ++ o ∧ o.all id = true := by
  simp only [RealOf, if_true, Cut]
  constructor
  · rintro ⟨n, hn, rfl, ho, hr⟩
    rcases Nat.lt_or_ge n b.length with h | h
    · exact .inr ⟨hr h, b.drop n, by simp [hr h], ho⟩
    · exact .inl (by rw [List.take_of_length_le h])
  · rintro (rfl | ⟨rfl, o, rfl, ho⟩)
    · exact ⟨b.length, Nat.le_refl _, by simp, by simp, fun h => absurd h (Nat.lt_irrefl _)⟩
    · exact ⟨real.length, by simp, by simp, by simpa using ho, fun _ => rfl⟩

theorem realOf_whole (blk : Bool) (b rest : List Bool) : RealOf blk b (b ++ rest) rest := by
  cases blk
  · rfl
  · exact realOf_true.2 (.inl rfl)

theorem realOf_nil (blk : Bool) (real rest : List Bool) (h : RealOf blk [] real rest) : real = rest := by
  cases blk
  · exact h
  · rcases realOf_true.1 h with h | ⟨rfl, o, ho, _⟩
    · exact h
    · simp at ho; exact ho.1

/-- splitting what is left of `b1 ++ b2` into what is left of `b1` and what is left of `b2` -/
theorem realOf_append (blk : Bool) (b1 b2 real rest : List Bool) (h : RealOf blk (b1 ++ b2) real rest) :
    ∃ mid, RealOf blk b1 real mid ∧ RealOf blk b2 mid rest := by
  cases blk
  · exact ⟨b2 ++ rest, by simpa using h, rfl⟩
  · rcases realOf_true.1 h with rfl | ⟨rfl, o, ho, h1⟩
    · exact ⟨b2 ++ rest, by simpa using realOf_whole true b1 (b2 ++ rest), realOf_whole true b2 rest⟩
    · rcases List.append_eq_append_iff.1 ho with ⟨a, rfl, rfl⟩ | ⟨c, rfl, rfl⟩
      · exact ⟨a, realOf_whole true b1 a, realOf_true.2 (.inr ⟨rfl, o, rfl, h1⟩)⟩
      · rw [all_id_append] at h1
        exact ⟨[], realOf_true.2 (.inr ⟨rfl, c, rfl, h1.1⟩), realOf_true.2 (.inr ⟨rfl, b2, rfl, h1.2⟩)⟩

/-- joining what is left of `u1` and what is left of `u2` -/
theorem realOf_join (blk : Bool) (u1 u2 real mid rest : List Bool) (h1 : RealOf blk u1 real mid) (h2 : RealOf blk u2 mid rest) :
    RealOf blk (u1 ++ u2) real rest := by
  cases blk
  · simp_all
  · rw [realOf_true] at *
    rcases h1 with rfl | ⟨rfl, o1, rfl, ho1⟩ <;> rcases h2 with h2 | ⟨rfl, o2, h2, ho2⟩
    · exact .inl (by simp [h2])
    · exact .inr ⟨rfl, o2, by simp [h2], ho2⟩
    · simp only [List.nil_eq, List.append_eq_nil_iff] at h2
      exact .inr ⟨h2.2, o1, by simp [h2.1], ho1⟩
    · exact .inr ⟨rfl, o1 ++ o2, by simp [h2], (all_id_append _ _).2 ⟨ho1, by simpa [h2] using ho2⟩⟩

/-- what the deserialiser adds to the bit position is what the serialiser adds -/
theorem pos_eq (blk : Bool) (pos : Nat) (used bits rest : List Bool) (h : RealOf blk used bits rest) :
    (if blk then pos else pos + (bits.length - rest.length)) = (if blk then pos else pos + used.length) := by
  cases blk
  · simp [realOf_false.1 h]
  · rfl

theorem cut_window (b w left : List Bool) : RealOf true b w left ↔
    (b.drop w.length).all id = true ∧ left.length = w.length - b.length ∧ b.take w.length ++ left = w := by
  rw [realOf_true]
  constructor
  · rintro (rfl | ⟨rfl, o, rfl, ho⟩)
    · simp [List.take_of_length_le, List.drop_of_length_le]
    · simp [ho]
  · rintro ⟨ho, hl, hw⟩
    rcases Nat.lt_or_ge w.length b.length with h | h
    · have : left = [] := List.eq_nil_of_length_eq_zero (by omega)
      subst this
      have hb := List.take_append_drop w.length b
      rw [List.append_nil] at hw
      rw [hw] at hb
      exact .inr ⟨rfl, b.drop w.length, hb.symm, ho⟩
    · rw [List.take_of_length_le h] at hw
      exact .inl hw.symm


theorem all_true_eq_replicate : ∀ (l : List Bool), l.all id = true → l = List.replicate l.length true
  | [], _ => rfl
  | x :: xs, h => by
    simp only [List.all_cons, Bool.and_eq_true, id] at h
    rw [List.length_cons, List.replicate_succ, h.1, ← all_true_eq_replicate xs h.2]

variable (C : Codec)

/-- one primitive: what the serialiser wrote is read back, also when the block ended inside it -/
theorem decPrim_sound (hS : Sound C) (hO : OnesBound C) {blk : Bool} {k : Prim} {v : Leaf} {b real rest : List Bool}
    (he : C.enc k v = some b) (hr : RealOf blk b real rest) : decPrim C blk k real = some (v, rest) := by
  cases blk
  · simp [decPrim, realOf_false.1 hr, hS k v b rest he]
  · simp only [decPrim, if_true]
    rcases realOf_true.1 hr with rfl | ⟨rfl, o, rfl, ho⟩
    · rw [List.append_assoc, hS k v b _ he]; simp
    · -- the code is `real` followed by the 1-bits `o`: the reader finds them among the `virt k` it is lent
      have hb : o.length ≤ C.virt k := by simpa using hO k v _ real.length he (by simpa using ho)
      have e : real ++ List.replicate (C.virt k) true = real ++ o ++ List.replicate (C.virt k - o.length) true := by
        rw [all_true_eq_replicate o ho, List.append_assoc, List.replicate_append_replicate, List.length_replicate]
        congr 2; omega
      rw [e, hS k v _ _ he]; simp

theorem serPrims_des (hS : Sound C) (hO : OnesBound C) (blk : Bool) : ∀ (ks : List Prim) (vs : List Val) (b : List Bool),
    serPrims C ks vs = some b → ∀ real rest, RealOf blk b real rest → desPrims C blk ks real = some (vs, rest)
  | [], [], b, h, real, rest, hr => by
    cases h
    rw [realOf_nil blk real rest hr]; rfl
  | [], _ :: _, b, h, _, _, _ => by simp [serPrims] at h
  | k :: ks, [], b, h, _, _, _ => by simp [serPrims] at h
  | k :: ks, .dict _ :: vs, b, h, _, _, _ => by simp [serPrims] at h
  | k :: ks, .list _ :: vs, b, h, _, _, _ => by simp [serPrims] at h
  | k :: ks, .leaf x :: vs, b, h, real, rest, hr => by
    simp only [serPrims] at h
    split at h <;> cases h
    rename_i b1 bs he hp
    obtain ⟨mid, h1, h2⟩ := realOf_append blk b1 bs real rest hr
    simp only [desPrims, decPrim_sound C hS hO he h1, serPrims_des hS hO blk ks vs bs hp mid rest h2]

theorem len_sub (b rest : List Bool) : (b ++ rest).length - rest.length = b.length := by simp

/-- a missing entry of a list of sub-descriptions is an empty one, so in every case a first sub-description is serialised -/
theorem serBodies_cons_some {blk : Bool} {pos : Nat} {body : List Stmt} {bodies : List (List Stmt)} {vs : List Val}
    {b : List Bool} {useds : List Val} (h : serBodies C blk pos (body :: bodies) vs = some (b, useds)) :
    ∃ d vs' b1 used bs us, serBody C blk pos body d [] = some (b1, used, []) ∧
      serBodies C blk (if blk then pos else pos + b1.length) bodies vs' = some (bs, us) ∧
      b = b1 ++ bs ∧ useds = .dict used :: us := by
  rcases vs with _ | ⟨_ | d | _, vs⟩ <;> simp only [serBodies] at h
  case cons.leaf => cases h
  case cons.list => cases h
  all_goals
    split at h
    · split at h <;> cases h
      exact ⟨_, _, _, _, _, _, ‹_›, ‹_›, rfl, rfl⟩
    · cases h

mutual
theorem serStmt_des (hS : Sound C) (hO : OnesBound C) : ∀ (s : Stmt) (blk : Bool) (pos : Nat) (d acc : Dict) (b : List Bool) (acc' d' : Dict),
    serStmt C blk pos s d acc = some (b, acc', d') → Disj d acc →
    (∀ real rest, RealOf blk b real rest → desStmt C blk pos s acc real = some (acc', rest)) ∧ Disj d' acc'
  | .prim t k, blk, pos, d, acc, b, acc', d', h, hd => by
    unfold serStmt at h
    split at h
    · rename_i v hg
      split at h <;> cases h
      rename_i he
      refine ⟨fun real rest hr => ?_, disj_step t _ hd⟩
      unfold desStmt; simp only [disj_get hd hg, Bool.false_eq_true, if_false, decPrim_sound C hS hO he hr]
    · cases h
  | .primList t ks, blk, pos, d, acc, b, acc', d', h, hd => by
    unfold serStmt at h
    split at h
    · rename_i vs hg
      split at h <;> cases h
      rename_i he
      refine ⟨fun real rest hr => ?_, disj_step t _ hd⟩
      unfold desStmt; simp only [disj_fetch hd hg, Bool.false_eq_true, if_false, serPrims_des C hS hO blk ks vs _ he real rest hr]
    · cases h
  | .sub t body, blk, pos, d, acc, b, acc', d', h, hd => by
    unfold serStmt at h
    split at h
    · rename_i dsub hg
      split at h <;> cases h
      rename_i used hb
      have ih := serBody_des hS hO body blk pos dsub [] _ used [] hb (disj_nil _)
      refine ⟨fun real rest hr => ?_, disj_step t _ hd⟩
      unfold desStmt; simp only [disj_fetch hd hg, Bool.false_eq_true, if_false, ih.1 real rest hr]
    · cases h
  | .subList t bodies, blk, pos, d, acc, b, acc', d', h, hd => by
    unfold serStmt at h
    split at h
    · rename_i vs hg
      split at h <;> cases h
      rename_i used hb
      refine ⟨fun real rest hr => ?_, disj_step t _ hd⟩
      unfold desStmt; simp only [disj_fetch hd hg, Bool.false_eq_true, if_false, serBodies_des hS hO bodies blk pos vs _ used hb real rest hr]
    · cases h
  | .block t len body, true, pos, d, acc, b, acc', d', h, hd => by unfold serStmt at h; cases h
  | .block t len body, false, pos, d, acc, b, acc', d', h, hd => by
    unfold serStmt at h
    split at h
    · rename_i b1 acc1 d1 hb
      split at h
      · rename_i hones
        split at h
        · rename_i p hg
          split at h <;> cases h
          rename_i hp
          have ih := serBody_des hS hO body true pos d acc b1 acc1 d1 hb hd
          refine ⟨fun real rest hr => ?_, disj_step t _ ih.2⟩
          have hlen : (b1.take len ++ p).length = len := by
            rw [List.length_append, List.length_take, hp, Nat.add_comm, Nat.sub_add_min_cancel]
          have hcut : RealOf true b1 (b1.take len ++ p) p :=
            (cut_window _ _ _).2 (by rw [hlen]; exact ⟨hones, hp, rfl⟩)
          have hge : ¬ (b1.take len ++ p ++ rest).length < len :=
            Nat.not_lt.2 (by rw [List.length_append, hlen]; exact Nat.le_add_right _ _)
          rw [realOf_false.1 hr]; unfold desStmt; simp only [hge, if_false, List.take_left' hlen, List.drop_left' hlen,
            ih.1 _ _ hcut, disj_get ih.2 hg, Bool.false_eq_true]
        · cases h
      · cases h
    · cases h
  | .align t, true, pos, d, acc, b, acc', d', h, hd => by unfold serStmt at h; cases h
  | .align t, false, pos, d, acc, b, acc', d', h, hd => by
    unfold serStmt at h
    split at h
    · rename_i p hg
      split at h <;> cases h
      rename_i hp
      refine ⟨fun real rest hr => ?_, disj_step t _ hd⟩
      have hge : ¬ (b ++ rest).length < alignBits pos :=
        Nat.not_lt.2 (by rw [List.length_append, hp]; exact Nat.le_add_right _ _)
      rw [realOf_false.1 hr]; unfold desStmt; simp only [disj_get hd hg, Bool.false_eq_true, if_false, hge,
        List.take_left' hp, List.drop_left' hp]
    · cases h
  | .computed t v, blk, pos, d, acc, b, acc', d', h, hd => by
    unfold serStmt at h
    split at h <;> cases h
    rename_i hacc
    refine ⟨fun real rest hr => ?_, disj_step t _ hd⟩
    rw [realOf_nil blk real rest hr]; unfold desStmt; simp only [eq_false_of_ne_true hacc, Bool.false_eq_true, if_false]
theorem serBody_des (hS : Sound C) (hO : OnesBound C) : ∀ (body : List Stmt) (blk : Bool) (pos : Nat) (d acc : Dict) (b : List Bool) (acc' d' : Dict),
    serBody C blk pos body d acc = some (b, acc', d') → Disj d acc →
    (∀ real rest, RealOf blk b real rest → desBody C blk pos body acc real = some (acc', rest)) ∧ Disj d' acc'
  | [], blk, pos, d, acc, b, acc', d', h, hd => by
    cases h
    exact ⟨fun real rest hr => by rw [realOf_nil blk real rest hr]; rfl, hd⟩
  | s :: ss, blk, pos, d, acc, b, acc', d', h, hd => by
    unfold serBody at h
    split at h
    · rename_i b1 acc1 d1 h1
      split at h <;> cases h
      rename_i bs h2
      have i1 := serStmt_des hS hO s blk pos d acc b1 acc1 d1 h1 hd
      have i2 := serBody_des hS hO ss blk _ d1 acc1 bs acc' d' h2 i1.2
      refine ⟨fun real rest hr => ?_, i2.2⟩
      obtain ⟨mid, r1, r2⟩ := realOf_append blk b1 bs real rest hr
      unfold desBody; simp only [i1.1 real mid r1, pos_eq blk pos b1 real mid r1]
      exact i2.1 mid rest r2
    · cases h
theorem serBodies_des (hS : Sound C) (hO : OnesBound C) : ∀ (bodies : List (List Stmt)) (blk : Bool) (pos : Nat) (vs : List Val) (b : List Bool) (useds : List Val),
    serBodies C blk pos bodies vs = some (b, useds) →
    ∀ real rest, RealOf blk b real rest → desBodies C blk pos bodies real = some (useds, rest)
  | [], blk, pos, [], b, useds, h, real, rest, hr => by
    cases h
    rw [realOf_nil blk real rest hr]; rfl
  | [], blk, pos, _ :: _, b, useds, h, _, _, _ => by simp [serBodies] at h
  | body :: bodies, blk, pos, vs, b, useds, h, real, rest, hr => by
    obtain ⟨d, vs', b1, used, bs, us, hb, h2, rfl, rfl⟩ := serBodies_cons_some C h
    obtain ⟨mid, r1, r2⟩ := realOf_append blk b1 bs real rest hr
    have i1 := serBody_des hS hO body blk pos d [] b1 used [] hb (disj_nil _)
    unfold desBodies; simp only [i1.1 real mid r1, pos_eq blk pos b1 real mid r1,
      serBodies_des hS hO bodies blk _ vs' bs us h2 mid rest r2]
end


open VC2.Props.C20

/- The C20 round-trip theorems speak of a writer holding `pre` and of `readerAt pre bits suf`; with `pre = []` these
   are, by unfolding, the fresh writer and the reader at the start of the bits that `encBits` / `decBits` run. -/

theorem nbits_sound (n : Nat) (v : Int) (b rest : List Bool)
    (h : (match ({} : Writer).writeNbits n v with | .ok w => some w.out | .error _ => none) = some b) :
    (match ({ all := b ++ rest, pos := 0 } : Reader).readNbits n with
      | .ok (x, r') => some (Leaf.int x, (b ++ rest).drop r'.pos) | .error _ => none) = some (Leaf.int v, rest) := by
  by_cases hr : v < 0 ∨ bitLength v > n
  · rw [(out_of_range_rejected ({} : Writer)).2.1 n v hr] at h; cases h
  · have hv : 0 ≤ v := by omega
    obtain ⟨bits, hl, hw, ⟨r', hrd, hp⟩, _⟩ := nbits_roundtrip n v hv (by omega) [] rest 0
    simp only [show ({} : Writer).writeNbits n v = .ok { out := bits } from hw, Option.some.injEq] at h
    subst h
    rw [show ({ all := bits ++ rest, pos := 0 } : Reader).readNbits n = .ok (v.toNat, r') from hrd]
    simp [hp, hl, Int.toNat_of_nonneg hv]

theorem bitarray_sound (n : Nat) (l b rest : List Bool) (hl : l.length = n)
    (h : (match ({} : Writer).writeBitarray n l with | .ok w => some w.out | .error _ => none) = some b) :
    (match Reader.readBits n ({ all := b ++ rest, pos := 0 } : Reader) with
      | .ok (x, r') => some (Leaf.bits x, (b ++ rest).drop r'.pos) | .error _ => none) = some (Leaf.bits l, rest) := by
  have := bitarray_roundtrip n l (by omega) [] rest
  simp only [hl, Nat.sub_self, List.replicate_zero, List.append_nil] at this
  obtain ⟨hw, r', hrd, hp⟩ := this
  simp only [show ({} : Writer).writeBitarray n l = .ok { out := l } from hw, Option.some.injEq] at h
  subst h
  rw [show Reader.readBits n { all := l ++ rest, pos := 0 } = .ok (l, r') from hrd]
  simp [hp, hl]

theorem bool_sound (v : Bool) (b rest : List Bool)
    (h : (match ({} : Writer).writeBit v with | .ok w => some w.out | .error _ => none) = some b) :
    (match ({ all := b ++ rest, pos := 0 } : Reader).readBit with
      | .ok (x, r') => some (Leaf.bool x, (b ++ rest).drop r'.pos) | .error _ => none) = some (Leaf.bool v, rest) := by
  cases h
  simp [Reader.readBit, Reader.rawBit]

theorem uint_sound (v : Int) (b rest : List Bool)
    (h : (match ({} : Writer).writeUint v with | .ok w => some w.out | .error _ => none) = some b) :
    (match ({ all := b ++ rest, pos := 0 } : Reader).readUint with
      | .ok (x, r') => some (Leaf.int x, (b ++ rest).drop r'.pos) | .error _ => none) = some (Leaf.int v, rest) := by
  by_cases hv : v < 0
  · rw [(out_of_range_rejected ({} : Writer)).1 v hv] at h; cases h
  · obtain ⟨bits, hw, _, ⟨r', hrd, hp, _⟩, _⟩ := uint_roundtrip v (by omega) [] rest 0
    simp only [show ({} : Writer).writeUint v = .ok { out := bits } from hw, Option.some.injEq] at h
    subst h
    rw [show ({ all := bits ++ rest, pos := 0 } : Reader).readUint = .ok (v, r') from hrd]
    simp [hp]

theorem sint_sound (v : Int) (b rest : List Bool)
    (h : (match ({} : Writer).writeSint v with | .ok w => some w.out | .error _ => none) = some b) :
    (match ({ all := b ++ rest, pos := 0 } : Reader).readSint with
      | .ok (x, r') => some (Leaf.int x, (b ++ rest).drop r'.pos) | .error _ => none) = some (Leaf.int v, rest) := by
  obtain ⟨bits, hw, _, ⟨r', hrd, hp⟩, _⟩ := sint_roundtrip v [] rest 0
  simp only [show ({} : Writer).writeSint v = .ok { out := bits } from hw, Option.some.injEq] at h
  subst h
  rw [show ({ all := bits ++ rest, pos := 0 } : Reader).readSint = .ok (v, r') from hrd]
  simp [hp]

/-- the C20 codec is a prefix code: whatever follows, reading returns the value written -/
theorem bitCodec_sound : ∀ k v b rest, bitCodec.enc k v = some b → bitCodec.dec k (b ++ rest) = some (v, rest) := by
  intro k v b rest h
  simp only [bitCodec] at h ⊢
  unfold encBits at h
  -- one case per line of `encBits`; the last is a value of another kind than the field, which is not written
  split at h <;> simp only [decBits] at h ⊢
  · exact bool_sound _ b rest h
  · exact nbits_sound _ _ b rest h
  · exact nbits_sound (8 * _) _ b rest h
  · split at h
    · exact bitarray_sound _ _ b rest ‹_› h
    · cases h
  · split at h
    · exact bitarray_sound (8 * _) _ b rest ‹_› h
    · cases h
  · exact uint_sound _ b rest h
  · exact sint_sound _ b rest h
  · cases h

end VC2.Proofs.Serdes
