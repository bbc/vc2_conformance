/-
  Lemmas for C17 (constraint tables).  Core Lean only.
-/
import VC2.Model.Constraint
import VC2.Proofs.AssocList
namespace VC2.Proofs.Constraint
open VC2 VC2.Model.Constraint

/-- a fold whose every step adds what its argument covers adds what the list covers; this is how
    every operation sequence on value sets (values, ranges, unions, CSV items, table columns) gets
    its set semantics from the semantics of one step -/
theorem foldl_or_iff {σ β : Type} {step : σ → β → σ} {P : σ → Prop} {C : β → Prop}
    (h : ∀ s b, P (step s b) ↔ P s ∨ C b) : ∀ (l : List β) (s : σ), P (l.foldl step s) ↔ P s ∨ ∃ b ∈ l, C b
  | [], s => by simp
  | b :: l, s => by simp only [List.foldl_cons, foldl_or_iff h l, h, List.mem_cons, exists_eq_or_imp, or_assoc]

theorem inRange_iff (v : Int) (r : Int × Int) : inRange v r = true ↔ r.1 ≤ v ∧ v ≤ r.2 := by
  simp [inRange]

theorem contains_iff (s : VSet) (x : Int) :
    s.contains x = true ↔ x ∈ s.values ∨ ∃ r ∈ s.ranges, inRange x r = true := by
  simp [VSet.contains, List.any_eq_true]

theorem contains_addValue (s : VSet) (v x : Int) :
    (s.addValue v).contains x = true ↔ s.contains x = true ∨ x = v := by
  unfold VSet.addValue
  split
  · next h => exact ⟨Or.inl, fun h1 => h1.elim id (· ▸ h)⟩
  · simp only [contains_iff, List.mem_cons, or_assoc, or_comm]

/-- the hull of two overlapping intervals is their union -/
theorem hull_iff {lo hi olo ohi : Int} (hov : lo ≤ ohi ∧ olo ≤ hi) (x : Int) :
    (if olo < lo then olo else lo) ≤ x ∧ x ≤ (if ohi > hi then ohi else hi) ↔
      (lo ≤ x ∧ x ≤ hi) ∨ (olo ≤ x ∧ x ≤ ohi) := by
  split <;> split <;> omega

/-- the merged interval is exactly the union of the new interval and the removed ones,
    and only existing ranges are removed -/
theorem mergeLoop_spec : ∀ (rs : List (Int × Int)) (lo hi : Int),
    (∀ x, inRange x ((mergeLoop rs lo hi).1, (mergeLoop rs lo hi).2.1) = true ↔
      (inRange x (lo, hi) = true ∨ ∃ r ∈ (mergeLoop rs lo hi).2.2, inRange x r = true)) ∧
    (∀ r ∈ (mergeLoop rs lo hi).2.2, r ∈ rs)
  | [], lo, hi => by simp [mergeLoop]
  | (olo, ohi) :: rest, lo, hi => by
    rw [mergeLoop]
    split
    · next hov =>
      have ⟨a, b⟩ := mergeLoop_spec rest (if olo < lo then olo else lo) (if ohi > hi then ohi else hi)
      refine ⟨fun x => ?_, fun r hr => ?_⟩
      · simp only [a x, inRange_iff x (_, _), hull_iff hov, List.mem_cons, exists_eq_or_imp, or_assoc]
      · exact (List.mem_cons.1 hr).elim (· ▸ List.mem_cons_self) fun h => List.mem_cons_of_mem _ (b r h)
    · have ⟨a, b⟩ := mergeLoop_spec rest lo hi
      exact ⟨a, fun r hr => List.mem_cons_of_mem _ (b r hr)⟩

theorem contains_addRange (s : VSet) (lo hi x : Int) :
    (s.addRange lo hi).contains x = true ↔ s.contains x = true ∨ inRange x (lo, hi) = true := by
  have ⟨a, b⟩ := mergeLoop_spec s.ranges lo hi
  simp only [contains_iff, VSet.addRange, List.mem_filter, List.mem_append, List.mem_singleton]
  constructor
  · rintro (⟨hx, hnot⟩ | ⟨r, (⟨hr, _⟩ | hr), hxr⟩)
    · exact Or.inl (Or.inl hx)
    · exact Or.inl (Or.inr ⟨r, hr, hxr⟩)
    · subst hr
      rcases (a x).1 hxr with h | ⟨r', hr', hx'⟩
      · exact Or.inr h
      · exact Or.inl (Or.inr ⟨r', b r' hr', hx'⟩)
  · rintro ((hx | ⟨r, hr, hxr⟩) | h)
    · cases hin : inRange x (lo, hi) with
      | true => exact Or.inr ⟨_, Or.inr rfl, (a x).2 (Or.inl hin)⟩
      | false => exact Or.inl ⟨hx, (Bool.not_eq_true' _).mpr hin⟩
    · by_cases hrem : r ∈ (mergeLoop s.ranges lo hi).2.2
      · exact Or.inr ⟨_, Or.inr rfl, (a x).2 (Or.inr ⟨r, hrem, hxr⟩)⟩
      · exact Or.inr ⟨r, Or.inl ⟨hr, by simpa using hrem⟩, hxr⟩
    · exact Or.inr ⟨_, Or.inr rfl, (a x).2 (Or.inl h)⟩

theorem contains_empty (x : Int) : ({} : VSet).contains x = false := by simp [VSet.contains]

theorem contains_union (a b : VSet) (x : Int) :
    (a.union b).contains x = true ↔ a.contains x = true ∨ b.contains x = true := by
  have values := foldl_or_iff (P := fun s => s.contains x = true) (fun s v => contains_addValue s v x)
  have ranges := foldl_or_iff (P := fun s => s.contains x = true) (fun s (r : Int × Int) => contains_addRange s r.1 r.2 x)
  simp only [VSet.union, values, ranges, contains_empty, contains_iff a, contains_iff b,
    Bool.false_eq_true, false_or, exists_eq_right']
  rw [or_assoc, or_or_or_comm]

theorem vs_contains_union (a b : VS) (x : Int) :
    (a.union b).contains x = true ↔ a.contains x = true ∨ b.contains x = true := by
  cases a <;> cases b <;> simp [VS.union, VS.contains, contains_union]

/-! ### well-formed ranges and disjointness -/

def VSet.WF (s : VSet) : Prop := ∀ r ∈ s.ranges, r.1 ≤ r.2

theorem wf_addValue (s : VSet) (v : Int) (h : VSet.WF s) : VSet.WF (s.addValue v) := by
  unfold VSet.addValue; split
  · exact h
  · exact h

theorem wf_addRange (s : VSet) (lo hi : Int) (h : VSet.WF s) (hr : lo ≤ hi) : VSet.WF (s.addRange lo hi) := by
  intro r hmem
  simp only [VSet.addRange, List.mem_append, List.mem_filter, List.mem_singleton] at hmem
  rcases hmem with ⟨hm, _⟩ | hm
  · exact h r hm
  · -- the merged interval contains `lo`
    have := ((mergeLoop_spec s.ranges lo hi).1 lo).2 (Or.inl ((inRange_iff _ _).2 ⟨Int.le_refl _, hr⟩))
    rw [inRange_iff] at this
    subst hm; exact Int.le_trans this.1 this.2

theorem contains_of_inRange {s : VSet} {r : Int × Int} {x : Int} (hr : r ∈ s.ranges) (h : r.1 ≤ x ∧ x ≤ r.2) :
    s.contains x = true :=
  (contains_iff s x).2 (Or.inr ⟨r, hr, (inRange_iff x r).2 h⟩)

theorem isEmpty_iff (s : VSet) (hs : VSet.WF s) : s.isEmpty = true ↔ ¬ ∃ x, s.contains x = true := by
  simp only [VSet.isEmpty, Bool.and_eq_true, List.isEmpty_iff, List.eq_nil_iff_forall_not_mem]
  constructor
  · rintro ⟨h1, h2⟩ ⟨x, hx⟩
    rcases (contains_iff s x).1 hx with hv | ⟨r, hr, _⟩
    · exact h1 x hv
    · exact h2 r hr
  · intro h
    exact ⟨fun v hv => h ⟨v, (contains_iff s v).2 (Or.inl hv)⟩,
      fun r hr => h ⟨r.1, contains_of_inRange hr ⟨Int.le_refl _, hs r hr⟩⟩⟩

theorem isDisjoint_correct (a b : VSet) (ha : VSet.WF a) (hb : VSet.WF b) :
    a.isDisjoint b = true ↔ ¬ ∃ x, a.contains x = true ∧ b.contains x = true := by
  unfold VSet.isDisjoint
  simp only [Bool.and_eq_true, Bool.not_eq_true', List.any_eq_false, Bool.or_eq_true, not_or,
    Bool.not_eq_true]
  constructor
  · rintro ⟨⟨⟨h1, h2⟩, h3⟩, h4⟩ ⟨x, hxa, hxb⟩
    rcases (contains_iff a x).1 hxa with hva | ⟨ra, hra, hxra⟩
    · exact Bool.eq_false_iff.1 (h1 x hva) hxb
    · rcases (contains_iff b x).1 hxb with hvb | ⟨rb, hrb, hxrb⟩
      · exact Bool.eq_false_iff.1 (h2 x hvb) hxa
      · -- two ranges with a common point: the larger of the lower ends lies in both
        rw [inRange_iff] at hxra hxrb
        by_cases hc : rb.1 ≤ ra.1
        · exact Bool.eq_false_iff.1 (h3 ra hra).1 (contains_of_inRange hrb (by omega))
        · exact Bool.eq_false_iff.1 (h4 rb hrb).1 (contains_of_inRange hra (by omega))
  · intro hno
    have key : ∀ x, a.contains x = true → b.contains x = false :=
      fun x hx => Bool.eq_false_iff.2 fun hx' => hno ⟨x, hx, hx'⟩
    have key' : ∀ x, b.contains x = true → a.contains x = false :=
      fun x hx => Bool.eq_false_iff.2 fun hx' => hno ⟨x, hx', hx⟩
    exact ⟨⟨⟨fun v hv => key v ((contains_iff a v).2 (Or.inl hv)), fun v hv => key' v ((contains_iff b v).2 (Or.inl hv))⟩,
      fun r hr => ⟨key _ (contains_of_inRange hr ⟨Int.le_refl _, ha r hr⟩), key _ (contains_of_inRange hr ⟨ha r hr, Int.le_refl _⟩)⟩⟩,
      fun r hr => ⟨key' _ (contains_of_inRange hr ⟨Int.le_refl _, hb r hr⟩), key' _ (contains_of_inRange hr ⟨hb r hr, Int.le_refl _⟩)⟩⟩

/-! ### Tables -/

theorem contains_foldl_union (f : Comb → VS) (v : Int) : ∀ (cs : List Comb) (init : VS),
    (cs.foldl (fun out c => out.union (f c)) init).contains v = true ↔
      init.contains v = true ∨ ∃ c ∈ cs, (f c).contains v = true :=
  foldl_or_iff (P := fun s => s.contains v = true) fun s c => vs_contains_union s (f c) v

theorem getD_contains (c : Comb) (key : Key) (v : Int) :
    ((c.get? key).getD (.set {})).contains v = c.admits (key, v) := by
  unfold Comb.admits
  cases c.get? key with
  | none => simp [VS.contains, contains_empty]
  | some s => rfl

theorem isAllowed_iff (t : Table) (values : Assign) :
    isAllowed t values = true ↔ ∃ c ∈ t, (values.all c.admits || c.isEmpty) = true := by
  simp only [isAllowed, filterTable, Bool.not_eq_true', List.isEmpty_eq_false_iff, ne_eq,
    List.filter_eq_nil_iff, Classical.not_forall, Classical.not_not, exists_prop]

/-- no catch-all (empty) column -/
def NoCatchAll (t : Table) : Prop := ∀ c ∈ t, c.isEmpty = false

/-- `allowed_values_for` contains `v` exactly when adding `key ↦ v` gives an allowed combination -/
theorem allowed_values_iff (t : Table) (key : Key) (values : Assign) (v : Int) (hnc : NoCatchAll t) :
    (allowedValuesFor t key values).contains v = true ↔ isAllowed t (values ++ [(key, v)]) = true := by
  unfold allowedValuesFor
  rw [contains_foldl_union, isAllowed_iff]
  have he : (VS.set {}).contains v = false := by simp [VS.contains, contains_empty]
  simp only [he, getD_contains, filterTable, List.mem_filter, false_or, Bool.false_eq_true]
  constructor
  · rintro ⟨c, ⟨hc, hp⟩, hadm⟩
    refine ⟨c, hc, ?_⟩
    rw [hnc c hc] at hp ⊢
    simp only [Bool.or_false, List.all_append, List.all_cons, List.all_nil, Bool.and_true,
      Bool.and_eq_true] at hp ⊢
    exact ⟨hp, hadm⟩
  · rintro ⟨c, hc, hp⟩
    rw [hnc c hc] at hp
    simp only [Bool.or_false, List.all_append, List.all_cons, List.all_nil, Bool.and_true,
      Bool.and_eq_true] at hp
    exact ⟨c, ⟨hc, by rw [hnc c hc]; simpa using hp.1⟩, hp.2⟩

/-- checking one value at a time (the validator's `assert_level_constraint`) succeeds exactly
    when every non-empty prefix of the sequence is an allowed combination -/
theorem assertSeq_iff (t : Table) (hnc : NoCatchAll t) : ∀ (kvs : List (Key × Int)) (cv : Assign),
    ((cv ++ kvs).map (·.1)).Nodup →
    ((assertSeq t cv kvs).isSome = true ↔
      ∀ n, 0 < n → n ≤ kvs.length → isAllowed t (cv ++ kvs.take n) = true)
  | [], cv, _ => by simp only [assertSeq, Option.isSome_some, List.length_nil, true_iff]; omega
  | (k, v) :: rest, cv, hnd => by
    simp only [assertSeq, Assign.set, AssocList.set_fresh cv k v rest hnd, allowed_values_iff t k cv v hnc]
    rw [List.append_cons] at hnd
    split
    · next hal =>
      rw [assertSeq_iff t hnc rest _ hnd]
      constructor
      · intro h n hn0 hn
        obtain _ | _ | m := n
        · omega
        · exact hal
        · simpa [List.append_assoc] using h (m + 1) (by omega) (by simp at hn; omega)
      · intro h n hn0 hn
        simpa [List.append_assoc] using h (n + 1) (by omega) (by simp; omega)
    · next hal =>
      simp only [Option.isSome_none, Bool.false_eq_true, false_iff]
      exact fun h => hal (h 1 (by omega) (by simp))

theorem assertSeq_result (t : Table) : ∀ (kvs : List (Key × Int)) (cv r : Assign),
    ((cv ++ kvs).map (·.1)).Nodup → assertSeq t cv kvs = some r → r = cv ++ kvs
  | [], cv, r, _, h => by simpa [assertSeq, eq_comm] using h
  | (k, v) :: rest, cv, r, hnd, h => by
    simp only [assertSeq, Assign.set, AssocList.set_fresh cv k v rest hnd] at h
    rw [List.append_cons] at hnd ⊢
    split at h
    · exact assertSeq_result t rest _ r hnd h
    · cases h

end VC2.Proofs.Constraint
