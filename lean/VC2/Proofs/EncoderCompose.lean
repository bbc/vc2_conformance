/- Lemmas for Props/C03Compose.lean: closed form of the autofill passes on a plain sequence, and on it each stream rule
   but the ordering patterns, with the two conditions of `C01.WellFormed`. -/
import VC2.Model.EncoderCompose
import VC2.Props.C07
import VC2.Props.C01History
namespace VC2.Proofs.EncoderCompose
open VC2 VC2.Model.Autofill VC2.Model.Stream VC2.Model.StreamSpec VC2.Model.StreamRules VC2.Proofs.Autofill VC2.Model.EncoderCompose

/-! what the autofill passes and the rules ask of the picture parse code -/
theorem picCode_isPicture (p : Nat) : isPictureCode (picCode p) = true := by
  unfold picCode isPictureCode; split <;> decide
theorem picCode_ne_zero (p : Nat) : (picCode p == 0) = false := by unfold picCode; split <;> decide
theorem kind_pic (p : Nat) : kindOfCode (picCode p) = some .picture := by unfold picCode; split <;> decide
theorem codeNeed_pic (p : Nat) : codeNeed (picCode p) = 1 := by unfold codeNeed picCode; split <;> decide

/-! one picture through each pass -/
theorem numberStep_picU (p l last : Nat) :
    numberStep last (picU p l) = (picN p l ((last + 1) % M32), (last + 1) % M32) := by
  simp [numberStep, picU, picN, picCode_isPicture]

theorem versionStep_pic (p l n : Nat) (mv : Int) (a : Bool) : versionStep mv a (picN p l n) = (picN p l n, a) := by
  simp [versionStep, picN, plainTP, picCode_ne_zero]

theorem offsetsFrom_pic (p l n prev : Nat) (us : List AUnit) (hne : us.isEmpty = false) :
    offsetsFrom (some prev) (picN p l n :: us) =
      { code := picCode p, len := l, picNum := some n, tp := some plainTP, next := some l, prev := some prev } ::
        offsetsFrom (some l) us := by
  have h2 : (picCode p == 0x20 || picCode p == 0x30) = false := by unfold picCode; split <;> decide
  simp [offsetsFrom, picN, h2, hne]


/-- the version the features of such a sequence require -/
def mvOf (p : Nat) : Int := pymax VC2.Gen.MINIMUM_MAJOR_VERSION (VC2.Gen.profile_version_implication p)

theorem mvOf_ge_one (p : Nat) : 1 ≤ mvOf p := pymax_ge_left _ _
theorem mvOf_toNat (p : Nat) : (((mvOf p).toNat : Nat) : Int) = mvOf p :=
  Int.toNat_of_nonneg (Int.le_trans (by decide) (mvOf_ge_one p))

/-- picture numbers do not bear on the version -/
theorem unitVersion_numberStep (last : Nat) (u : AUnit) : unitVersion (numberStep last u).1 = unitVersion u := by
  unfold numberStep; split <;> rfl

theorem foldl_version_numberFrom (us : List AUnit) (last : Nat) (v : Int) :
    (numberFrom last us).foldl (fun v u => pymax v (unitVersion u)) v = us.foldl (fun v u => pymax v (unitVersion u)) v := by
  induction us generalizing last v with
  | nil => rfl
  | cons u us ih => simp only [numberFrom, List.foldl_cons, unitVersion_numberStep, ih]

theorem foldl_version_fixed (v : Int) (us : List AUnit) (h : ∀ u ∈ us, unitVersion u ≤ v) :
    us.foldl (fun v u => pymax v (unitVersion u)) v = v := by
  rcases foldl_max_attained us v with e | ⟨u, hu, e⟩
  · exact e
  · exact Int.le_antisymm (e ▸ h u hu) (foldl_max_ge us v).1

theorem unitVersion_picU (p l : Nat) : unitVersion (picU p l) = 1 := by
  have hpc : VC2.Gen.parse_code_version_implication (picCode p) = 1 := codeNeed_pic p
  simp only [unitVersion, picU, picCode_ne_zero, hasTP, picCode_isPicture, Bool.true_or, if_true, tpVersion, plainTP]
  rw [hpc]; decide

theorem unitVersion_hdrU (p h : Nat) : pymax VC2.Gen.MINIMUM_MAJOR_VERSION (unitVersion (hdrU p h)) = mvOf p := by
  unfold mvOf unitVersion hdrU hdrVersion plainHdr
  simp only [optImp]
  unfold VC2.Gen.profile_version_implication
  by_cases hp : ((p : Nat) : Int) = 3
  · simp [hp]; decide
  · simp [hp]; decide

theorem required_closed (p h : Nat) (ls : List Nat) :
    requiredVersion (autofillPictureNumbers (plainSeq p h ls)) = mvOf p := by
  unfold requiredVersion autofillPictureNumbers
  rw [foldl_version_numberFrom, plainSeq, List.cons_append, List.foldl_cons, unitVersion_hdrU]
  apply foldl_version_fixed
  intro u hu
  rcases List.mem_append.1 hu with hu | hu
  · obtain ⟨l, _, rfl⟩ := List.mem_map.1 hu
    rw [unitVersion_picU]; exact mvOf_ge_one p
  · rw [List.mem_singleton.1 hu, show unitVersion eosU = 1 by decide]; exact mvOf_ge_one p


/-- the filled pictures and end of sequence: consecutive numbers, true distances -/
def filled (p : Nat) : Nat → Nat → List Nat → List AUnit
  | prev, _, [] => [{ code := 0x10, len := 13, next := some 0, prev := some prev }]
  | prev, last, l :: ls =>
    { code := picCode p, len := l, picNum := some ((last + 1) % M32), tp := some plainTP, next := some l, prev := some prev } ::
      filled p l ((last + 1) % M32) ls

theorem passes_ne_nil (mv : Int) (a : Bool) (last : Nat) (us : List AUnit) (e : AUnit) :
    (versionFill mv a (numberFrom last (us ++ [e]))).isEmpty = false := by
  cases us <;> rfl

/-- the three passes over the pictures and the end of sequence, at once -/
theorem fill_body (p : Nat) (mv : Int) (ls : List Nat) (prev last : Nat) :
    offsetsFrom (some prev) (versionFill mv true (numberFrom last (ls.map (picU p) ++ [eosU]))) = filled p prev last ls := by
  induction ls generalizing prev last with
  | nil => rfl
  | cons l ls ih =>
    rw [List.map_cons, List.cons_append, numberFrom, numberStep_picU, versionFill, versionStep_pic,
      offsetsFrom_pic _ _ _ _ _ (passes_ne_nil ..), ih, filled]


def hdrF (p h : Nat) : AUnit :=
  { code := 0, len := h, hdr := some { plainHdr p with majorVersion := some (mvOf p).toNat }, next := some h, prev := some 0 }

/-- **what the autofill passes make of a plain sequence**, in closed form -/
theorem autofill_closed (p h : Nat) (ls : List Nat) :
    autofillSeq (plainSeq p h ls) = hdrF p h :: filled p h (M32 - 1) ls := by
  unfold autofillSeq autofillOffsets autofillMajorVersion
  rw [required_closed, ← fill_body p (mvOf p)]
  -- the header through the first two passes, by computation
  show offsetsFrom none ({ code := 0, len := h, hdr := some { plainHdr p with majorVersion := some (mvOf p).toNat } } ::
    versionFill (mvOf p) true (numberFrom (M32 - 1) (ls.map (picU p) ++ [eosU]))) = _
  simp [offsetsFrom, passes_ne_nil, hdrF]


def picD (p pcm l n prev : Nat) : DUnit :=
  { kind := .picture, code := picCode p, len := l, next := l, prev := prev, pcm := pcm, picNum := n }
def eosD (pcm prev : Nat) : DUnit := { kind := .eos, code := 0x10, len := 13, next := 0, prev := prev, pcm := pcm }
def hdrD (p pcm h : Nat) : DUnit :=
  { kind := .seqHdr, code := 0, len := h, next := h, prev := 0, majorVersion := (mvOf p).toNat, profile := p, pcm := pcm }

/-- the filled pictures and end of sequence as the validator sees them -/
def filledD (p pcm : Nat) : Nat → Nat → List Nat → List DUnit
  | prev, _, [] => [eosD pcm prev]
  | prev, last, l :: ls => picD p pcm l ((last + 1) % M32) prev :: filledD p pcm l ((last + 1) % M32) ls

theorem toD_filled (p pcm : Nat) (ls : List Nat) (prev last : Nat) :
    (filled p prev last ls).map (toD pcm) = filledD p pcm prev last ls := by
  induction ls generalizing prev last with
  | nil => rfl
  | cons l ls ih =>
    rw [filled, filledD, List.map_cons, ih]
    simp [toD, picD, kind_pic]

theorem toD_hdr (p pcm h : Nat) : toD pcm (hdrF p h) = hdrD p pcm h := by
  simp [toD, hdrF, hdrD, kindOfCode, plainHdr]

/-- the encoder's plain sequence after automatic filling, as the validator sees it -/
theorem stream_closed (p pcm h : Nat) (ls : List Nat) :
    (autofillSeq (plainSeq p h ls)).map (toD pcm) = hdrD p pcm h :: filledD p pcm h (M32 - 1) ls := by
  rw [autofill_closed, List.map_cons, toD_hdr, toD_filled]


/-! the rules on the pictures and the end of sequence.  Where a picture passes a rule's check by computation
    (it is no header, no fragment, not the end), the induction step is the induction hypothesis itself. -/

theorem shape_body (p pcm : Nat) (ls : List Nat) (prev last : Nat) : shapeRule true (filledD p pcm prev last ls) = true := by
  induction ls generalizing prev last with
  | nil => rfl
  | cons l ls ih => exact ih l _

theorem offsets_body (p pcm : Nat) (ls : List Nat) (prev last : Nat) (h : ∀ l ∈ ls, 13 ≤ l) :
    offsetsRule (some (prev, prev)) (filledD p pcm prev last ls) = true := by
  induction ls generalizing prev last with
  | nil => simp [filledD, offsetsRule, eosD, immediateNext]
  | cons l ls ih =>
    have hl : 13 ≤ l := h l List.mem_cons_self
    simp [filledD, offsetsRule, picD, immediateNext, hl, ih l _ fun x hx => h x (List.mem_cons_of_mem _ hx)]

theorem headers_body (p pcm : Nat) (hd : DUnit) (ls : List Nat) (prev last : Nat) :
    headersRule (some hd) (filledD p pcm prev last ls) = true := by
  induction ls generalizing prev last with
  | nil => rfl
  | cons l ls ih => exact ih l _

theorem codes_body (p pcm : Nat) (hd : DUnit) (hp : p = 0 ∨ p = 3) (hprof : hd.profile = p) (hv : 1 ≤ (hd.majorVersion : Int))
    (ls : List Nat) (prev last : Nat) : codesRule (some hd) (filledD p pcm prev last ls) = true := by
  induction ls generalizing prev last with
  | nil =>
    have a : profileAllows hd.profile 0x10 = true := by rw [hprof]; rcases hp with rfl | rfl <;> decide
    have b : codeNeed 0x10 = 1 := by decide
    simp [filledD, codesRule, eosD, a, b, hv]
  | cons l ls ih =>
    have a : profileAllows hd.profile (picCode p) = true := by rw [hprof]; rcases hp with rfl | rfl <;> decide
    simp [filledD, codesRule, picD, a, codeNeed_pic, hv, ih]

theorem fragments_body (cfg : Config) (p pcm : Nat) (ls : List Nat) (prev last : Nat) :
    fragmentsRule cfg (some none) (filledD p pcm prev last ls) = true := by
  induction ls generalizing prev last with
  | nil => rfl
  | cons l ls ih => exact ih l _

theorem version_body (p pcm : Nat) (hd : DUnit) (need : Int) (hn : (hd.majorVersion : Int) ≤ need)
    (ls : List Nat) (prev last n : Nat) : versionRule (some (hd, need, n)) (filledD p pcm prev last ls) = true := by
  induction ls generalizing prev last n need with
  | nil =>
    have : (hd.majorVersion : Int) ≤ pymax need (codeNeed 0x10) := Int.le_trans hn (pymax_ge_left _ _)
    simp [filledD, versionRule, eosD, this]
  | cons l ls ih => exact ih _ (Int.le_trans hn (pymax_ge_left _ _)) l _ _


/-- a picture passes the picture-number rule if its number follows the last one and, in field coding,
    a first field is even -/
theorem numbersRule_picture {h u : DUnit} {lo : Option Nat} {n : Nat} {rest : List DUnit} (hk : u.kind = .picture)
    (hnum : ∀ l, lo = some l → u.picNum = (l + 1) % M32)
    (hpar : h.pcm = 1 → n % 2 = 0 → u.picNum % 2 = 0)
    (hrest : numbersRule (some (h, some u.picNum, n + 1)) rest = true) :
    numbersRule (some (h, lo, n)) (u :: rest) = true := by
  have hs : startsPicture u = true := by simp [startsPicture, hk]
  have hp : (h.pcm == 1 && n % 2 == 0 && u.picNum % 2 != 0) = false := by
    refine Bool.eq_false_iff.2 fun hc => ?_
    simp only [Bool.and_eq_true, beq_iff_eq, bne_iff_ne] at hc
    exact hc.2 (hpar hc.1.1 hc.1.2)
  simp only [numbersRule, hs, hk, hp, hrest, if_true, if_false, reduceCtorEq, Bool.not_false, Bool.and_true]
  split
  · exact beq_iff_eq.2 (hnum _ rfl)
  · rfl

theorem numbersRule_eos {h u : DUnit} {lo : Option Nat} {n : Nat} (hk : u.kind = .eos) (hev : h.pcm = 1 → n % 2 = 0) :
    numbersRule (some (h, lo, n)) [u] = true := by
  simpa [numbersRule, startsPicture, hk] using Decidable.not_or_of_imp hev

/-- picture numbers: with `n` pictures so far and the last number one less than `n` (mod 2^32), the rest of the
    pictures are consecutive, a first field is even, and a field sequence ends on a whole frame when the
    total is even -/
theorem numbers_body (p pcm : Nat) (hd : DUnit) (hpcm : hd.pcm = pcm) (ls : List Nat) (prev last n : Nat)
    (lastOpt : Option Nat) (hlo : lastOpt = none ∨ lastOpt = some last) (hinv : (last + 1) % M32 = n % M32)
    (hev : pcm = 1 → (n + ls.length) % 2 = 0) :
    numbersRule (some (hd, lastOpt, n)) (filledD p pcm prev last ls) = true := by
  induction ls generalizing prev last n lastOpt with
  | nil => exact numbersRule_eos rfl (hpcm ▸ hev)
  | cons l ls ih =>
    refine numbersRule_picture rfl ?_ ?_ (ih l _ (n + 1) _ (Or.inr rfl) ?_ ?_)
    · intro l' hl'
      rcases hlo with rfl | rfl
      · cases hl'
      · cases hl'; rfl
    · intro _ hn
      -- the number and the count agree mod 2^32, hence in parity
      show (last + 1) % M32 % 2 = 0
      rw [hinv, Nat.mod_mod_of_dvd n (by decide), hn]
    · show ((last + 1) % M32 + 1) % M32 = (n + 1) % M32
      rw [Nat.mod_add_mod]; exact Nat.add_mod_eq_add_mod_right 1 hinv
    · intro h1; rw [Nat.add_right_comm, Nat.add_assoc]; exact hev h1


theorem wf_body (p pcm : Nat) (ls : List Nat) (prev last : Nat) (h : ∀ l ∈ ls, 13 ≤ l) :
    ∀ u ∈ filledD p pcm prev last ls, unitWF u = true := by
  induction ls generalizing prev last with
  | nil => intro u hu; rw [List.mem_singleton.1 hu]; rfl
  | cons l ls ih =>
    intro u hu
    rcases List.mem_cons.1 hu with rfl | hu
    · have hl : 13 ≤ l := h l List.mem_cons_self
      simp [unitWF, picD, kind_pic, hl]
    · exact ih l _ (fun x hx => h x (List.mem_cons_of_mem _ hx)) u hu

/-- only two sequence headers are compared -/
theorem hdrAgree_of_kind {h u : DUnit} (hk : (u.kind == .seqHdr) = false) : hdrAgree h u = true := by
  simp [hdrAgree, hk]

theorem agree_body (p pcm : Nat) (hd : DUnit) (ls : List Nat) (prev last : Nat) :
    hdrsAgree (some hd) (filledD p pcm prev last ls) = true := by
  induction ls generalizing prev last with
  | nil => exact Bool.and_eq_true_iff.2 ⟨hdrAgree_of_kind rfl, rfl⟩
  | cons l ls ih => exact Bool.and_eq_true_iff.2 ⟨hdrAgree_of_kind rfl, ih l _⟩

end VC2.Proofs.EncoderCompose
