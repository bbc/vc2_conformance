/- The composed component pipeline is the identity at quantisation index 0 (C04). -/
import VC2.Model.Pipeline
import VC2.Props.C04
namespace VC2.Proofs.Pipeline
open VC2 VC2.Model.Wavelet VC2.Model.Picture VC2.Model.Pipeline

theorem mapAll_id (g : Int → Int) (hg : ∀ v, g v = v) (a : VC2.Model.Wavelet.Arr) : mapAll g a = a := by
  cases a with
  | mk h w f => simp only [mapAll]; congr; funext y x; exact hg _

theorem mapCoeffs_comp_id (g1 g2 : Int → Int) (hg : ∀ v, g1 (g2 v) = v) (c : Coeffs) :
    mapCoeffs g1 (mapCoeffs g2 c) = c := by
  have h : ∀ a, mapAll g1 (mapAll g2 a) = a := fun a => mapAll_id _ hg a
  simp only [mapCoeffs, List.map_map, Function.comp_def, h, Prod.eta, List.map_id']

theorem onDc_inverse (c : Coeffs) : onDc dcPrediction (onDc applyDcPrediction c) = c := by
  cases c with
  | mk dc ho full =>
    cases dc with
    | mk h w f =>
      simp only [onDc]
      congr
      funext y x
      exact VC2.Props.C04.dc_prediction_inverse w h f y x

/-- the low-delay DC prediction stage, switched on or off on both sides alike -/
theorem dcStage_inverse (ld : Bool) (c : Coeffs) :
    (if ld then onDc dcPrediction (if ld then onDc applyDcPrediction c else c)
      else (if ld then onDc applyDcPrediction c else c)) = c := by
  cases ld
  · rfl
  · exact onDc_inverse c

/-- a point-wise map undone inside the bounds -/
theorem mapAll_cancel_eq (k g : Int → Int) (a b : VC2.Model.Wavelet.Arr) (hb : b.Eq (mapAll g a))
    (hk : ∀ y x, y < a.h → x < a.w → k (g (a.f y x)) = a.f y x) : (mapAll k b).Eq a :=
  ⟨hb.1, hb.2.1, fun y x hy hx => by
    show k (b.f y x) = _
    rw [hb.2.2 y x hy hx]
    exact hk y x (hb.1 ▸ hy) (hb.2.1 ▸ hx)⟩

/-- **decode ∘ encode = identity at quantisation index 0**, for one component -/
theorem component_round_trip (depth : Nat) (hd : 1 ≤ depth) (fv fho : Filter) (dho d : Nat) (a : VC2.Model.Wavelet.Arr)
    (ph pw : Nat) (ld : Bool) (hh1 : 1 ≤ a.h) (hw1 : 1 ≤ a.w) (hph : a.h ≤ ph) (hpw : a.w ≤ pw)
    (hh : ph % 2 ^ d = 0) (hw : pw % 2 ^ (d + dho) = 0)
    (hrange : ∀ y x, y < a.h → x < a.w → 0 ≤ a.f y x ∧ a.f y x ≤ 2 ^ depth - 1) :
    (decodeComponent depth fv fho ld 0 a.h a.w (encodeComponent depth fv fho dho d ph pw ld 0 a)).Eq a := by
  unfold decodeComponent encodeComponent
  simp only
  rw [mapCoeffs_comp_id _ _ VC2.Props.C04.unquantised_coefficients_exact, dcStage_inverse]
  exact mapAll_cancel_eq _ _ a _
    (VC2.Props.C04.transform_inverse fv fho dho d (mapAll (removeOffsetSample depth) a) ph pw hh1 hw1 hph hpw hh hw)
    (fun y x hy hx => VC2.Props.C04.sample_pipeline_identity depth hd _ (hrange y x hy hx).1 (hrange y x hy hx).2)

end VC2.Proofs.Pipeline
