/- Equivalence of the validator model (`Stream.run`) and the rule-level specification
   (`StreamSpec.specRun`).  Helper lemmas; the property theorem is in Props/C01History.lean. -/
import VC2.Props.C01
import VC2.Proofs.StreamSpecKinds
namespace VC2.Proofs.StreamSpec
open VC2 VC2.Model.SymRe VC2.Model.Stream VC2.Model.StreamSpec VC2.Proofs.Stream

/-! ### individually valid units -/

/-- the facts about a valid unit's parse code that the validator consults -/
structure CodeFacts (u : DUnit) : Prop where
  len : 13 ≤ u.len
  eos : u.code = 16 ↔ u.kind = .eos
  hdr : u.code = 0 ↔ u.kind = .seqHdr
  pic : isPicture u.code = true ↔ u.kind = .picture
  frag : isFragment u.code = true ↔ u.kind = .fragment
  name_hdr : codeName u.code = "sequence_header" ↔ u.kind = .seqHdr

/-- `kindOfCode` as a table -/
def codeTable : List (Nat × Kind) :=
  [(0, .seqHdr), (16, .eos), (32, .aux), (48, .padding), (200, .picture), (232, .picture), (204, .fragment), (236, .fragment)]

theorem ite_some_eq {α : Type} {c : Prop} [Decidable c] {a k : α} {e : Option α} :
    (if c then some a else e) = some k ↔ (c ∧ a = k) ∨ (¬ c ∧ e = some k) := by
  split <;> simp [*]

theorem kindOfCode_mem {n : Nat} {k : Kind} (h : kindOfCode n = some k) : (n, k) ∈ codeTable := by
  unfold kindOfCode at h
  simp only [ite_some_eq, reduceCtorEq, and_false, or_false] at h
  rcases h with ⟨rfl, rfl⟩ | ⟨-, ⟨rfl, rfl⟩ | ⟨-, ⟨rfl, rfl⟩ | ⟨-, ⟨rfl, rfl⟩ | ⟨-, ⟨rfl | rfl, rfl⟩ | ⟨-, rfl | rfl, rfl⟩⟩⟩⟩⟩ <;>
    decide

theorem codeTable_facts : ∀ p ∈ codeTable,
    (p.1 = 16 ↔ p.2 = .eos) ∧ (p.1 = 0 ↔ p.2 = .seqHdr) ∧ (isPicture p.1 = true ↔ p.2 = .picture) ∧
    (isFragment p.1 = true ↔ p.2 = .fragment) ∧ (codeName p.1 = "sequence_header" ↔ p.2 = .seqHdr) := by
  decide +kernel

theorem codeFacts (u : DUnit) (h : unitWF u = true) : CodeFacts u := by
  simp only [unitWF, Bool.and_eq_true, beq_iff_eq, decide_eq_true_eq] at h
  obtain ⟨a, b, c, d, e⟩ := codeTable_facts _ (kindOfCode_mem h.1)
  exact ⟨h.2, a, b, c, d, e⟩

/-! ### the relation between validator state and rule context -/

structure Rel (cfg : Config) (s : VState) (c : Ctx) : Prop where
  pos_ge : c.prevLen ≤ s.pos
  lastPI : s.lastPI = some (s.pos - c.prevLen)
  nextOff : s.nextOff = some c.prevNext
  generic : s.generic = c.generic
  level : s.level = some c.level
  profile : s.profile = some c.hdr.profile
  mv : s.majorVersion = some c.hdr.majorVersion
  pcm : s.pcm = some c.hdr.pcm
  lastHdr : s.lastHdr = some c.hdr.hdrId
  expected : s.expectedVersion = some c.need
  need_ge : profileNeed c.hdr.profile ≤ c.need
  hdr_ok : profileNeed c.hdr.profile ≤ (c.hdr.majorVersion : Int)
  hdr_kind : c.hdr.kind = .seqHdr
  lastNum : s.lastPicNum = c.lastNum
  npics : s.numPics = c.npics
  frag : match c.frag with
    | none => s.fragRemaining = 0
    | some (num, got) =>
      s.fragRemaining = cfg.slicesX * cfg.slicesY - got ∧ got < cfg.slicesX * cfg.slicesY ∧
      s.fragReceived = some got ∧ c.lastNum = some num ∧ s.slicesX = some cfg.slicesX ∧
      s.slicesY = some cfg.slicesY ∧ s.initFragOffset ≠ none

/-- the state `parse_info` leaves, as a function -/
def afterPI (s : VState) (c : Ctx) (u : DUnit) (g l : Matcher) : VState :=
  { s with generic := g, level := some l, expectedVersion := some (pymax c.need (codeNeed u.code)),
           nextOff := some u.next, lastPI := some s.pos }

theorem afterPI_fields (s : VState) (c : Ctx) (u : DUnit) (g l : Matcher) :
    (afterPI s c u g l).lastPicNum = s.lastPicNum ∧ (afterPI s c u g l).pcm = s.pcm ∧
    (afterPI s c u g l).numPics = s.numPics ∧ (afterPI s c u g l).fragRemaining = s.fragRemaining := ⟨rfl, rfl, rfl, rfl⟩

/-- `Rel` after one data unit that is not the last of its sequence: `parse_info` and the advance of the
    position re-establish everything but the picture bookkeeping, whatever the payload made of the
    eight state components that `Rel` reads only through its last three fields -/
theorem rel_step {cfg : Config} {s : VState} {c : Ctx} (hr : Rel cfg s c) (u : DUnit) (g l : Matcher)
    {a : Option Nat} {b : Nat} {sx sy : Option Nat} {d : List Nat} {i r : Option Nat} {m : Nat}
    (ha : a = (nextCtx cfg c u g l).lastNum) (hb : b = (nextCtx cfg c u g l).npics)
    (hf : match (nextCtx cfg c u g l).frag with
      | none => m = 0
      | some (num, got) =>
        m = cfg.slicesX * cfg.slicesY - got ∧ got < cfg.slicesX * cfg.slicesY ∧ r = some got ∧
        (nextCtx cfg c u g l).lastNum = some num ∧ sx = some cfg.slicesX ∧ sy = some cfg.slicesY ∧ i ≠ none) :
    Rel cfg { afterPI s c u g l with pos := s.pos + u.len, lastPicNum := a, numPics := b, slicesX := sx, slicesY := sy,
                                     decoded := d, initFragOffset := i, fragReceived := r, fragRemaining := m }
      (nextCtx cfg c u g l) :=
  ⟨Nat.le_add_left .., congrArg some (Nat.add_sub_cancel ..).symm, rfl, rfl, rfl, hr.profile, hr.mv, hr.pcm, hr.lastHdr, rfl,
    Int.le_trans hr.need_ge (le_pymax_left _ _), hr.hdr_ok, hr.hdr_kind, ha, hb, hf⟩

/-! ### `parse_info` -/

/-- what `parse_info` asks of a unit's own next_parse_offset -/
def nextShape (u : DUnit) : Bool :=
  match u.kind with
  | .eos => u.next == 0
  | .picture | .fragment => u.next == 0 || decide (13 ≤ u.next)
  | _ => decide (13 ≤ u.next)

theorem nextShape_iff {u : DUnit} (cf : CodeFacts u) :
    ((u.code = 0x10 → u.next = 0) ∧
     (u.next = 0 → u.code = 0x10 ∨ isPicture u.code = true ∨ isFragment u.code = true) ∧
     (u.next = 0 ∨ 13 ≤ u.next)) ↔ nextShape u = true := by
  rw [cf.eos, cf.pic, cf.frag]
  unfold nextShape
  cases u.kind <;> simp <;> omega

/-- the checks of `parse_info`, in rule terms -/
def piOk (c : Ctx) (u : DUnit) : Bool :=
  pendingOk c && u.prev == c.prevLen &&
  profileAllows c.hdr.profile u.code && decide (codeNeed u.code ≤ (c.hdr.majorVersion : Int)) && nextShape u

theorem parseInfo_iff (cfg : Config) (s : VState) (c : Ctx) (u : DUnit) (hr : Rel cfg s c) (hw : unitWF u = true)
    (s1 : VState) :
    parseInfo s u = .ok s1 ↔
      ∃ g l, c.generic.matchSymbol (codeName u.code) = some g ∧ c.level.matchSymbol (codeName u.code) = some l ∧
        piOk c u = true ∧ s1 = afterPI s c u g l := by
  have cf := codeFacts u hw
  have e : s.pos - (s.pos - c.prevLen) = c.prevLen := by have := hr.pos_ge; omega
  -- the rewriting below also reaches the unchanged `profile` and `majorVersion` of the resulting state
  have hs (g l : Matcher) : afterPI s c u g l =
      { afterPI s c u g l with profile := some c.hdr.profile, majorVersion := some c.hdr.majorVersion } := by
    rw [← hr.profile, ← hr.mv]; rfl
  rw [parseInfo_ok_iff, hr.generic, hr.level, hr.nextOff, hr.lastPI, hr.profile, hr.mv, hr.expected]
  simp only [levelStep_some, Option.some.injEq, reduceCtorEq, false_or, false_imp_iff, true_and, forall_eq', e,
    exists_eq_left', Option.map_some, Option.getD_some, Int.not_lt, piOk, pendingOk, Bool.and_eq_true,
    Bool.or_eq_true, beq_iff_eq, decide_eq_true_eq, ← nextShape_iff cf]
  constructor
  · rintro ⟨h1, g, hg, _, ⟨l, hl, rfl⟩, h4, h5, h6, h7, h8, h10, rfl⟩
    exact ⟨g, l, hg, hl, ⟨⟨⟨⟨h1, h10⟩, h4⟩, h5⟩, h6, h7, h8⟩, (hs g l).symm⟩
  · rintro ⟨g, l, hg, hl, ⟨⟨⟨⟨h1, h10⟩, h4⟩, h5⟩, h6, h7, h8⟩, rfl⟩
    exact ⟨h1, g, hg, _, ⟨l, hl, rfl⟩, h4, h5, h6, h7, h8, h10, hs g l⟩

/-! ### the payload -/

theorem frag_none_iff {cfg : Config} {s : VState} {c : Ctx} (hr : Rel cfg s c) :
    s.fragRemaining = 0 ↔ c.frag = none := by
  have := hr.frag
  cases hf : c.frag with
  | none => rw [hf] at this; simp [this]
  | some p =>
    rw [hf] at this
    simp only [reduceCtorEq, iff_false]
    omega

def hdrRule (c : Ctx) (u : DUnit) : Bool := u.kind != .seqHdr || u.hdrId == c.hdr.hdrId

/-- how each kind of payload is shown to simulate the rules: it succeeds exactly when `P` holds and then
    leaves `X`; `P` is what the header-identity and picture rules say; `X`, advanced, is related again -/
theorem payload_sim {cfg : Config} {s : VState} {c : Ctx} {u : DUnit} {g l : Matcher} (P : Prop) (X : VState)
    (hiff : ∀ s2, payload cfg (afterPI s c u g l) u = .ok s2 ↔ P ∧ s2 = X)
    (hP : (hdrRule c u = true ∧ pictureOk cfg c u = true) ↔ P)
    (hrel : P → Rel cfg { X with pos := s.pos + u.len } (nextCtx cfg c u g l)) :
    (∀ s2, payload cfg (afterPI s c u g l) u = .ok s2 →
        hdrRule c u = true ∧ pictureOk cfg c u = true ∧
        Rel cfg { s2 with pos := s.pos + u.len } (nextCtx cfg c u g l)) ∧
    (hdrRule c u = true → pictureOk cfg c u = true → ∃ s2, payload cfg (afterPI s c u g l) u = .ok s2) := by
  refine ⟨fun s2 h => ?_, fun h1 h2 => ⟨X, (hiff X).2 ⟨hP.1 ⟨h1, h2⟩, rfl⟩⟩⟩
  obtain ⟨hp, rfl⟩ := (hiff s2).1 h
  exact ⟨(hP.2 hp).1, (hP.2 hp).2, hrel hp⟩

/-- a unit that neither starts a picture nor carries slices leaves the picture bookkeeping alone -/
theorem rel_keep {cfg : Config} {s : VState} {c : Ctx} (hr : Rel cfg s c) (u : DUnit) (g l : Matcher)
    (hk : u.kind ≠ .fragment) (hk2 : u.kind ≠ .picture) :
    Rel cfg { afterPI s c u g l with pos := s.pos + u.len } (nextCtx cfg c u g l) := by
  have hsp := startsPicture_of_ne hk2 hk
  have hnf := nextFrag_of_ne cfg c hk
  refine rel_step hr u g l ?_ ?_ ?_
  · simp only [nextCtx, hsp]; exact hr.lastNum
  · simp only [nextCtx, hsp]; exact hr.npics
  · simp only [nextCtx, hsp, hnf]; exact hr.frag

/-- a repeated sequence header -/
theorem headerPayload_iff (cfg : Config) (s : VState) (c : Ctx) (u : DUnit) (g l : Matcher) (hr : Rel cfg s c)
    (hk : u.kind = .seqHdr) (hag : hdrAgree c.hdr u = true) (s2 : VState) :
    payload cfg (afterPI s c u g l) u = .ok s2 ↔ (u.hdrId = c.hdr.hdrId ∧ s2 = afterPI s c u g l) := by
  rw [payload_seqHdr cfg _ hk, headerPayload_ok_iff]
  show _ ∧ (∃ lvl, levelInit cfg (some l) = .ok lvl ∧ (∀ h, s.lastHdr = some h → h = u.hdrId) ∧ _) ↔ _
  simp only [levelInit_some, Except.ok.injEq, exists_eq_left', hr.lastHdr, Option.some.injEq, forall_eq']
  have hagree : u.hdrId = c.hdr.hdrId →
      u.profile = c.hdr.profile ∧ u.majorVersion = c.hdr.majorVersion ∧ u.pcm = c.hdr.pcm := by
    intro hid
    unfold hdrAgree at hag
    simp only [hr.hdr_kind, hk, hid, beq_self_eq_true, Bool.and_self, Bool.not_true, Bool.false_or,
      Bool.and_eq_true, beq_iff_eq] at hag
    exact ⟨hag.1.1.symm, hag.1.2.symm, hag.2.symm⟩
  have e : pymax (pymax c.need (codeNeed u.code)) (VC2.Gen.profile_version_implication (c.hdr.profile : Int))
      = pymax c.need (codeNeed u.code) :=
    pymax_eq_left _ _ (Int.le_trans hr.need_ge (le_pymax_left _ _))
  -- a header with the reference's identity carries its parameters, so it changes nothing
  have hsame : { afterPI s c u g l with
      majorVersion := some c.hdr.majorVersion, profile := some c.hdr.profile,
      expectedVersion := some (pymax c.need (codeNeed u.code)), level := some l, pcm := some c.hdr.pcm,
      lastHdr := some c.hdr.hdrId } = afterPI s c u g l := by
    rw [← hr.mv, ← hr.profile, ← hr.pcm, ← hr.lastHdr]; rfl
  constructor
  · rintro ⟨-, hid, rfl⟩
    obtain ⟨a, b, d⟩ := hagree hid.symm
    refine ⟨hid.symm, ?_⟩
    rw [a, b, d, ← hid]
    simp only [afterPI, Option.getD_some, e] at hsame ⊢
    exact hsame
  · rintro ⟨hid, rfl⟩
    obtain ⟨a, b, d⟩ := hagree hid
    refine ⟨?_, hid.symm, ?_⟩
    · rw [a, b]; exact Int.not_lt.2 hr.hdr_ok
    · rw [a, b, d, hid]
      simp only [afterPI, Option.getD_some, e] at hsame ⊢
      exact hsame.symm

theorem numberCheck_iff {cfg : Config} {s : VState} {c : Ctx} (hr : Rel cfg s c) (u : DUnit) (g l : Matcher)
    (s2 : VState) :
    pictureNumberCheck (afterPI s c u g l) u.picNum = .ok s2 ↔
      numberOk c u.picNum = true ∧
      s2 = { afterPI s c u g l with lastPicNum := some u.picNum, numPics := s.numPics + 1 } := by
  rw [pictureNumberCheck_ok_iff]
  show (∀ last, s.lastPicNum = some last → _) ∧ (∃ pcm, s.pcm = some pcm ∧ ¬ (pcm = 1 ∧ s.numPics % 2 = 0 ∧ _) ∧ _) ↔ _
  rw [hr.lastNum, hr.pcm]
  simp only [Option.some.injEq, exists_eq_left', numberOk, ← hr.npics, Bool.and_eq_true, Bool.and_eq_false_imp,
    beq_iff_eq, ne_eq, Bool.not_eq_eq_eq_not, Bool.not_true, bne_eq_false_iff_eq, not_and, Decidable.not_not, and_imp,
    and_assoc]
  refine and_congr ?_ Iff.rfl
  cases c.lastNum <;> simp

/-- the start of a picture: a whole picture, or the first fragment of a fragmented one -/
theorem startPicture_iff {cfg : Config} {s : VState} {c : Ctx} (hr : Rel cfg s c) (u : DUnit) (g l : Matcher)
    (f : VState → VState) (s2 : VState) :
    ((afterPI s c u g l).fragRemaining = 0 ∧
      ∃ s1, pictureNumberCheck (afterPI s c u g l) u.picNum = .ok s1 ∧ s2 = f s1) ↔
    (c.frag = none ∧ numberOk c u.picNum = true) ∧
      s2 = f { afterPI s c u g l with lastPicNum := some u.picNum, numPics := s.numPics + 1 } := by
  simp only [numberCheck_iff hr, and_assoc, exists_and_left, exists_eq_left]
  exact and_congr_left' (frag_none_iff (s := s) hr)

/-- a fragment carrying slices, inside the open fragmented picture `(num, got)` -/
theorem dataPayload_iff (cfg : Config) (s : VState) (c : Ctx) (u : DUnit) (g l : Matcher) (hr : Rel cfg s c)
    (hk : u.kind = .fragment) (h0 : u.sliceCount ≠ 0) {num got : Nat} (hf : c.frag = some (num, got)) (s2 : VState) :
    payload cfg (afterPI s c u g l) u = .ok s2 ↔
      (u.picNum = num ∧ got + u.sliceCount ≤ cfg.slicesX * cfg.slicesY ∧
        u.fx = got % cfg.slicesX ∧ u.fy = got / cfg.slicesX) ∧
      s2 = { afterPI s c u g l with
             fragReceived := some (got + u.sliceCount),
             fragRemaining := cfg.slicesX * cfg.slicesY - got - u.sliceCount,
             decoded := if decide (got + u.sliceCount = cfg.slicesX * cfg.slicesY) then s.decoded ++ [u.picNum]
                        else s.decoded } := by
  have hfr := hr.frag
  rw [hf] at hfr
  obtain ⟨f1, f2, f3, f4, f5, f6, -⟩ := hfr
  have e1 : (afterPI s c u g l).fragRemaining = cfg.slicesX * cfg.slicesY - got := f1
  have e3 : (afterPI s c u g l).fragReceived = some got := f3
  have e4 : (afterPI s c u g l).lastPicNum = some num := hr.lastNum.trans f4
  have e5 : (afterPI s c u g l).slicesX = some cfg.slicesX := f5
  have e6 : (afterPI s c u g l).slicesY = some cfg.slicesY := f6
  rw [payload_dataFragment cfg _ hk h0, dataFragment_ok_iff]
  constructor
  · rintro ⟨-, h2, h3, r, sx, hr', hsx, -, hx, hy, rfl⟩
    rw [e3] at hr'; cases hr'
    rw [e5] at hsx; cases hsx
    rw [e4] at h2; rw [e1] at h3
    refine ⟨⟨(Option.some.inj h2).symm, by omega, hx, hy⟩, ?_⟩
    simp only [afterPI, f1, f6, Option.getD_some]
  · rintro ⟨⟨rfl, hle, hx, hy⟩, rfl⟩
    have hsx0 : cfg.slicesX ≠ 0 := by intro h; rw [h, Nat.zero_mul] at f2; omega
    refine ⟨by omega, e4, by omega, got, cfg.slicesX, e3, e5, hsx0, hx, hy, ?_⟩
    simp only [afterPI, f1, f6, Option.getD_some]

/-- one non-final data unit: the payload is accepted exactly when the header-identity and picture
    rules hold, and then the relation is re-established for the next unit -/
theorem payload_step (cfg : Config) (s : VState) (c : Ctx) (u : DUnit) (g l : Matcher) (hr : Rel cfg s c)
    (hne : u.kind ≠ .eos) (hag : hdrAgree c.hdr u = true) :
    (∀ s2, payload cfg (afterPI s c u g l) u = .ok s2 →
        hdrRule c u = true ∧ pictureOk cfg c u = true ∧
        Rel cfg { s2 with pos := s.pos + u.len } (nextCtx cfg c u g l)) ∧
    (hdrRule c u = true → pictureOk cfg c u = true → ∃ s2, payload cfg (afterPI s c u g l) u = .ok s2) := by
  cases hk : u.kind with
  | eos => exact absurd hk hne
  | aux | padding =>
    refine payload_sim True _ (fun s2 => ?_) (by simp [hdrRule, pictureOk, hk])
      (fun _ => rel_keep hr u g l (by rw [hk]; simp) (by rw [hk]; simp))
    rw [payload_plain cfg _ (by simp [hk]), Except.ok.injEq, true_and]; exact eq_comm
  | seqHdr =>
    exact payload_sim _ _ (headerPayload_iff cfg s c u g l hr hk hag) (by simp [hdrRule, pictureOk, hk])
      (fun _ => rel_keep hr u g l (by rw [hk]; simp) (by rw [hk]; simp))
  | picture =>
    have hsp : startsPicture u = true := by simp [startsPicture, hk]
    have hnf : nextFrag cfg c u = c.frag := by simp [nextFrag, hk]
    refine payload_sim _ _ (fun s2 => (payload_picture_ok_iff cfg _ s2 hk).trans (startPicture_iff hr u g l _ s2))
      (by simp [hdrRule, pictureOk, hk]) (fun hp => rel_step hr u g l ?_ ?_ ?_)
    · simp only [nextCtx, hsp, if_true]
    · simp only [nextCtx, hsp, if_true, hr.npics]
    · simp only [nextCtx, hnf, hp.1]; exact (frag_none_iff hr).2 hp.1
  | fragment =>
    by_cases h0 : u.sliceCount = 0
    · have hsp : startsPicture u = true := by simp [startsPicture, hk, h0]
      refine payload_sim _ _
        (fun s2 => (payload_fragment0_ok_iff cfg _ s2 hk h0).trans (startPicture_iff hr u g l _ s2))
        (by simp [hdrRule, pictureOk, hk, h0]) (fun _ => rel_step hr u g l ?_ ?_ ?_)
      · simp only [nextCtx, hsp, if_true]
      · simp only [nextCtx, hsp, if_true, hr.npics]
      · simp only [nextCtx, nextFrag, hk, h0, hsp, if_true]
        by_cases hz : cfg.slicesX * cfg.slicesY = 0
        · rw [if_pos hz]; exact hz
        · rw [if_neg hz]; exact ⟨rfl, by omega, rfl, rfl, trivial, trivial, by simp⟩
    · have hsp : startsPicture u = false := by simp [startsPicture, hk, h0]
      cases hf : c.frag with
      | none =>
        refine payload_sim False (afterPI s c u g l) (fun s2 => ?_) (by simp [pictureOk, hk, h0, hf]) False.elim
        rw [payload_dataFragment cfg _ hk h0, dataFragment_ok_iff]
        exact iff_of_false (fun h => h.1 ((frag_none_iff hr).2 hf)) (fun h => h.1)
      | some p =>
        obtain ⟨num, got⟩ := p
        have hfr := hr.frag
        rw [hf] at hfr
        obtain ⟨f1, f2, f3, f4, f5, f6, f7⟩ := hfr
        refine payload_sim _ _ (dataPayload_iff cfg s c u g l hr hk h0 hf)
          (by simp [hdrRule, pictureOk, hk, h0, hf, and_assoc]) (fun hp => rel_step hr u g l ?_ ?_ ?_)
        · simp only [nextCtx, hsp]; exact hr.lastNum
        · simp only [nextCtx, hsp]; exact hr.npics
        · simp only [nextCtx, nextFrag, hk, h0, hf, hsp, if_false]
          obtain ⟨-, hle, -, -⟩ := hp
          by_cases hz : got + u.sliceCount = cfg.slicesX * cfg.slicesY
          · rw [if_pos hz]; show _ - _ - _ = 0; omega
          · rw [if_neg hz]; exact ⟨by omega, by omega, rfl, f4, f5, f6, f7⟩

/-! ### the end of a sequence -/

theorem endOfSequence_iff (cfg : Config) (s : VState) (c : Ctx) (u : DUnit) (g l : Matcher) (hr : Rel cfg s c)
    (hk : u.kind = .eos) :
    endOfSequence (afterPI s c u g l) = .ok () ↔ endOk (nextCtx cfg c u g l) = true := by
  rw [VC2.Props.C01.end_of_sequence_accepts_iff]
  show (g.isComplete = true ∧ (∀ lm, some l = some lm → lm.isComplete = true) ∧ s.fragRemaining = 0 ∧
    ∃ pcm mv, s.pcm = some pcm ∧ s.majorVersion = some mv ∧ ¬ (pcm = 1 ∧ s.numPics % 2 ≠ 0) ∧
      ((s.numPics = 0 ∧ mv = 3) ∨ ¬ ((mv : Int) > pymax c.need (codeNeed u.code)))) ↔ _
  rw [frag_none_iff hr, hr.pcm, hr.mv, hr.npics]
  simp only [endOk, nextCtx, startsPicture_eos hk, nextFrag_eos cfg c hk, Option.some.injEq, forall_eq', exists_and_left, exists_eq_left',
    Bool.and_eq_true, Bool.or_eq_true, Bool.not_eq_eq_eq_not, Bool.not_true, Bool.and_eq_false_imp, beq_iff_eq,
    bne_eq_false_iff_eq, ne_eq, decide_eq_true_eq, Option.isNone_iff_eq_none, Bool.false_eq_true, if_false,
    not_and, Decidable.not_not, Int.not_lt, gt_iff_lt, and_assoc]

/-! ### the first data unit of a sequence -/

theorem first_kind {p : Nat} {d : List Nat} {u : DUnit} (hw : unitWF u = true) {s1 : VState}
    (h : parseInfo (VState.fresh p d) u = .ok s1) : u.kind = .seqHdr := by
  obtain ⟨-, g, hg, -⟩ := (parseInfo_ok_iff _ _ _).1 h
  exact (codeFacts u hw).name_hdr.1 (generic_first _ g hg)

theorem rel_first (cfg : Config) (p : Nat) (d : List Nat) (u : DUnit) (g l : Matcher) (hk : u.kind = .seqHdr)
    (hv : profileNeed u.profile ≤ (u.majorVersion : Int)) :
    Rel cfg { VState.fresh p d with
              pos := p + u.len, lastPI := some p, nextOff := some u.next, generic := g, level := some l,
              profile := some u.profile, majorVersion := some u.majorVersion,
              expectedVersion := some (firstCtx u g l).need, lastHdr := some u.hdrId, pcm := some u.pcm }
      (firstCtx u g l) :=
  ⟨Nat.le_add_left .., congrArg some (Nat.add_sub_cancel ..).symm, rfl, rfl, rfl, rfl, rfl, rfl, rfl, rfl,
    le_pymax_right _ _, hv, hk, rfl, rfl, rfl⟩

/-- from the fresh state, `parse_info` and the header payload succeed exactly under `headOk` and the two
    ordering patterns, and establish the relation -/
theorem first_step (cfg : Config) (p : Nat) (d : List Nat) (u : DUnit) (hw : unitWF u = true) :
    (∀ s1 s2, parseInfo (VState.fresh p d) u = .ok s1 → payload cfg s1 u = .ok s2 →
      ∃ g l, (Matcher.init false genericPattern).matchSymbol (codeName u.code) = some g ∧
        (Matcher.init false cfg.levelPattern).matchSymbol (codeName u.code) = some l ∧ headOk u = true ∧
        Rel cfg { s2 with pos := p + u.len } (firstCtx u g l)) ∧
    (∀ g l, (Matcher.init false genericPattern).matchSymbol (codeName u.code) = some g →
      (Matcher.init false cfg.levelPattern).matchSymbol (codeName u.code) = some l → headOk u = true →
      ∃ s1 s2, parseInfo (VState.fresh p d) u = .ok s1 ∧ payload cfg s1 u = .ok s2 ∧
        Rel cfg { s2 with pos := p + u.len } (firstCtx u g l)) := by
  have cf := codeFacts u hw
  have hhead : headOk u = true ↔ u.kind = .seqHdr ∧ u.prev = 0 ∧ 13 ≤ u.next ∧
      profileNeed u.profile ≤ (u.majorVersion : Int) := by
    simp only [headOk, Bool.and_eq_true, beq_iff_eq, decide_eq_true_eq, and_assoc]
  have hnext : u.kind = .seqHdr → (nextShape u = true ↔ 13 ≤ u.next) := fun hk => by simp [nextShape, hk]
  constructor
  · intro s1 s2 hp hpl
    have hk := first_kind hw hp
    obtain ⟨-, g, hg, lvl, hlv, -, -, h6, h7, h8, h9, -, rfl⟩ := (parseInfo_ok_iff _ _ _).1 hp
    cases hlv
    rw [payload_seqHdr cfg _ hk, headerPayload_ok_iff] at hpl
    obtain ⟨hv, lm, hlm, -, rfl⟩ := hpl
    have hv' : profileNeed u.profile ≤ (u.majorVersion : Int) := Int.not_lt.1 hv
    refine ⟨g, lm, hg, ?_, hhead.2 ⟨hk, h9 rfl, (hnext hk).1 ((nextShape_iff cf).1 ⟨h6, h7, h8⟩), hv'⟩,
      rel_first cfg p d u g lm hk hv'⟩
    rw [generic_first _ g hg]; exact (levelInit_none cfg lm).1 hlm
  · intro g l hg hl hh
    obtain ⟨hk, hp0, hn, hv⟩ := hhead.1 hh
    obtain ⟨h6, h7, h8⟩ := (nextShape_iff cf).2 ((hnext hk).2 hn)
    have hver : ¬ (VC2.Gen.MINIMUM_MAJOR_VERSION < VC2.Gen.parse_code_version_implication u.code) := by
      rw [cf.hdr.2 hk]; decide
    have hl' : (Matcher.init false cfg.levelPattern).matchSymbol "sequence_header" = some l := by
      rw [← generic_first _ g hg]; exact hl
    exact ⟨_, _, (parseInfo_ok_iff _ _ _).2 ⟨Or.inl rfl, g, hg, none, rfl, nofun, hver, h6, h7, h8, fun _ => hp0, nofun, rfl⟩,
      (payload_seqHdr cfg _ hk).trans
        ((headerPayload_ok_iff _ _ _ _).2 ⟨Int.not_lt.2 hv, l, (levelInit_none cfg l).2 hl', nofun, rfl⟩),
      rel_first cfg p d u g l hk hv⟩

/-! ### whole histories -/

/-- `immediateNext` is what `parse_info` checks of next_parse_offset together with the absence of the
    padding/auxiliary desynchronisation that `run` checks -/
theorem immediateNext_iff {u : DUnit} (hlen : 13 ≤ u.len) :
    immediateNext u = true ↔ nextShape u = true ∧ ¬ ((u.kind = .aux ∨ u.kind = .padding) ∧ u.next ≠ u.len) := by
  unfold immediateNext nextShape
  cases u.kind <;> simp <;> omega

theorem unitOk_iff (cfg : Config) (c : Ctx) (u : DUnit) (hlen : 13 ≤ u.len) :
    unitOk cfg c u = true ↔
      (piOk c u = true ∧ ¬ ((u.kind = .aux ∨ u.kind = .padding) ∧ u.next ≠ u.len) ∧
       hdrRule c u = true ∧ pictureOk cfg c u = true) := by
  simp only [unitOk, piOk, hdrRule, Bool.and_eq_true, immediateNext_iff hlen, decide_eq_true_eq]
  constructor
  · rintro ⟨⟨⟨⟨⟨⟨a, b⟩, n, x⟩, p⟩, v⟩, h⟩, q⟩; exact ⟨⟨⟨⟨⟨a, b⟩, p⟩, v⟩, n⟩, x, h, q⟩
  · rintro ⟨⟨⟨⟨⟨a, b⟩, p⟩, v⟩, n⟩, x, h, q⟩; exact ⟨⟨⟨⟨⟨⟨a, b⟩, n, x⟩, p⟩, v⟩, h⟩, q⟩

theorem specRun_some_cons (cfg : Config) (c : Ctx) (u : DUnit) (rest : List DUnit) :
    specRun cfg (some c) (u :: rest) = true ↔
      ∃ g l, c.generic.matchSymbol (codeName u.code) = some g ∧ c.level.matchSymbol (codeName u.code) = some l ∧
        unitOk cfg c u = true ∧
        (if u.kind = .eos then endOk (nextCtx cfg c u g l) = true ∧ specRun cfg none rest = true
         else specRun cfg (some (nextCtx cfg c u g l)) rest = true) := by
  conv => lhs; unfold specRun
  cases hg : c.generic.matchSymbol (codeName u.code) with
  | none => simp
  | some g =>
    cases hl : c.level.matchSymbol (codeName u.code) with
    | none => simp
    | some l =>
      simp only [Bool.and_eq_true, Option.some.injEq, exists_and_left, exists_eq_left']
      by_cases hk : u.kind = .eos <;> simp [hk]

theorem specRun_none_cons (cfg : Config) (u : DUnit) (rest : List DUnit) :
    specRun cfg none (u :: rest) = true ↔
      ∃ g l, (Matcher.init false genericPattern).matchSymbol (codeName u.code) = some g ∧
        (Matcher.init false cfg.levelPattern).matchSymbol (codeName u.code) = some l ∧
        headOk u = true ∧ specRun cfg (some (firstCtx u g l)) rest = true := by
  conv => lhs; unfold specRun
  cases hg : (Matcher.init false genericPattern).matchSymbol (codeName u.code) with
  | none => simp
  | some g =>
    cases hl : (Matcher.init false cfg.levelPattern).matchSymbol (codeName u.code) with
    | none => simp
    | some l => simp

/-- **the validator model accepts exactly the histories the rules accept** -/
theorem run_spec (cfg : Config) : ∀ (us : List DUnit), (∀ u ∈ us, unitWF u = true) →
    (∀ p d, hdrsAgree none us = true → ((run cfg (VState.fresh p d) us).1 = .ok ↔ specRun cfg none us = true)) ∧
    (∀ s c, Rel cfg s c → hdrsAgree (some c.hdr) us = true →
      ((run cfg s us).1 = .ok ↔ specRun cfg (some c) us = true)) := by
  intro us
  induction us with
  | nil =>
    refine fun _ => ⟨fun p d _ => ?_, fun s c hr _ => ?_⟩
    · simp [run_ok_nil, VState.fresh, specRun]
    · simp [run_ok_nil, hr.lastPI, specRun]
  | cons u rest ih =>
    intro hwf
    have hwu : unitWF u = true := hwf u List.mem_cons_self
    obtain ⟨ih0, ih1⟩ := ih (fun v hv => hwf v (List.mem_cons_of_mem _ hv))
    constructor
    · -- between sequences
      intro p d hag
      rw [run_ok_cons, specRun_none_cons]
      obtain ⟨f1, f2⟩ := first_step cfg p d u hwu
      have hagr : u.kind = .seqHdr → hdrsAgree (some u) rest = true := by
        intro hk
        unfold hdrsAgree at hag
        rwa [if_neg (by rw [hk]; simp)] at hag
      constructor
      · rintro ⟨s1, hp, h⟩
        have hk := first_kind hwu hp
        rw [if_neg (by rw [hk]; simp)] at h
        obtain ⟨-, s2, hpl, hrun⟩ := h
        obtain ⟨g, l, hg, hl, hh, hrel⟩ := f1 s1 s2 hp hpl
        exact ⟨g, l, hg, hl, hh, (ih1 _ _ hrel (hagr hk)).1 hrun⟩
      · rintro ⟨g, l, hg, hl, hh, hs⟩
        obtain ⟨s1, s2, hp, hpl, hrel⟩ := f2 g l hg hl hh
        have hk := first_kind hwu hp
        refine ⟨s1, hp, ?_⟩
        rw [if_neg (by rw [hk]; simp)]
        exact ⟨by rw [hk]; simp, s2, hpl, (ih1 _ _ hrel (hagr hk)).2 hs⟩
    · -- inside a sequence: `parse_info` fixes the state, then both sides split on the end of sequence
      intro s c hr hagc
      rw [run_ok_cons, specRun_some_cons]
      unfold hdrsAgree at hagc
      simp only [Bool.and_eq_true] at hagc
      obtain ⟨hagu, hagr⟩ := hagc
      simp only [parseInfo_iff cfg s c u hr hwu, unitOk_iff cfg c u (codeFacts u hwu).len]
      have key : ∀ g l, (piOk c u = true ∧
            if u.kind = .eos then
              endOfSequence (afterPI s c u g l) = .ok () ∧
              (run cfg (VState.fresh (s.pos + u.len) (afterPI s c u g l).decoded) rest).1 = .ok
            else
              ¬ ((u.kind = .aux ∨ u.kind = .padding) ∧ u.next ≠ u.len) ∧
              ∃ s2, payload cfg (afterPI s c u g l) u = .ok s2 ∧ (run cfg { s2 with pos := s.pos + u.len } rest).1 = .ok) ↔
          ((piOk c u = true ∧ ¬ ((u.kind = .aux ∨ u.kind = .padding) ∧ u.next ≠ u.len) ∧
              hdrRule c u = true ∧ pictureOk cfg c u = true) ∧
            if u.kind = .eos then endOk (nextCtx cfg c u g l) = true ∧ specRun cfg none rest = true
            else specRun cfg (some (nextCtx cfg c u g l)) rest = true) := by
        intro g l
        by_cases hk : u.kind = .eos
        · rw [if_pos hk] at hagr
          simp only [endOfSequence_iff cfg s c u g l hr hk, ih0 _ _ hagr, hdrRule, hk, pictureOk_eos cfg c hk]
          simp
        · rw [if_neg hk] at hagr
          obtain ⟨ps1, ps2⟩ := payload_step cfg s c u g l hr hk hagu
          simp only [if_neg hk]
          constructor
          · rintro ⟨hpi, hd, s2, hpl, hrun⟩
            obtain ⟨hh, hpic, hrel⟩ := ps1 s2 hpl
            exact ⟨⟨hpi, hd, hh, hpic⟩, (ih1 _ _ hrel hagr).1 hrun⟩
          · rintro ⟨⟨hpi, hd, hh, hpic⟩, hs⟩
            obtain ⟨s2, hpl⟩ := ps2 hh hpic
            exact ⟨hpi, hd, s2, hpl, (ih1 _ _ (ps1 s2 hpl).2.2 hagr).2 hs⟩
      constructor
      · rintro ⟨_, ⟨g, l, hg, hl, hpi, rfl⟩, h⟩
        exact ⟨g, l, hg, hl, (key g l).1 ⟨hpi, h⟩⟩
      · rintro ⟨g, l, hg, hl, h⟩
        obtain ⟨hpi, h⟩ := (key g l).2 h
        exact ⟨_, ⟨g, l, hg, hl, hpi, rfl⟩, h⟩

end VC2.Proofs.StreamSpec
