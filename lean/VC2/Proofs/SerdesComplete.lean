/- Helper lemmas for C06: canonical codes (the reader accepts only what the writer writes). -/
import VC2.Proofs.Serdes
namespace VC2.Proofs.Serdes
open VC2 VC2.Model.Serdes VC2.Model.BitIO


theorem readBits_spec : ∀ (n : Nat) (all : List Bool) (pos : Nat) (l : List Bool) (r' : Reader),
    Reader.readBits n { all := all, pos := pos } = .ok (l, r') →
    l = (all.drop pos).take n ∧ l.length = n ∧ r' = { all := all, pos := pos + n } := by
  intro n
  induction n with
  | zero => intro all pos l r' h; simp [Reader.readBits] at h; obtain ⟨h1, h2⟩ := h; subst h1 h2; simp
  | succ n ih =>
    intro all pos l r' h
    simp only [Reader.readBits, Reader.readBit, Reader.rawBit, bind, Except.bind] at h
    cases hg : all[pos]? with
    | none => rw [hg] at h; cases h
    | some b =>
      rw [hg] at h; simp only at h
      cases hr : Reader.readBits n { all := all, pos := pos + 1 } with
      | error e => rw [hr] at h; cases h
      | ok q =>
        obtain ⟨bs, r2⟩ := q
        rw [hr] at h; simp [pure, Except.pure] at h
        obtain ⟨e1, e2⟩ := h; subst e1 e2
        obtain ⟨i1, i2, i3⟩ := ih all (pos + 1) bs r2 hr
        refine ⟨?_, by simp [i2], by rw [i3]; congr 1; omega⟩
        obtain ⟨hlt, hb⟩ := List.getElem?_eq_some_iff.1 hg
        rw [List.drop_eq_getElem_cons hlt, List.take_succ_cons, ← i1, hb]

def valOf : List Bool → Nat → Nat
  | [], acc => acc
  | b :: bs, acc => valOf bs (acc * 2 + (if b then 1 else 0))

theorem valOf_eq : ∀ (bs : List Bool) (acc : Nat), valOf bs acc = acc * 2 ^ bs.length + valOf bs 0 := by
  intro bs
  induction bs with
  | nil => intro acc; simp [valOf]
  | cons b bs ih =>
    intro acc
    simp only [valOf, List.length_cons]
    rw [ih (acc * 2 + _), ih (0 * 2 + _)]
    rw [Nat.pow_succ]
    cases b <;> simp [Nat.add_mul, Nat.mul_assoc, Nat.mul_comm 2, Nat.add_assoc]

theorem valOf_lt : ∀ (bs : List Bool), valOf bs 0 < 2 ^ bs.length := by
  intro bs
  induction bs with
  | nil => simp [valOf]
  | cons b bs ih =>
    simp only [valOf, List.length_cons]
    rw [valOf_eq, Nat.pow_succ]
    cases b <;> simp <;> omega

theorem nbitsOf_low (a w n : Nat) (hw : w < 2 ^ n) : ∀ i, i ≤ n → nbitsOf (2 ^ n * a + w) i = nbitsOf w i := by
  intro i
  induction i with
  | zero => intro _; rfl
  | succ i ih =>
    intro hi
    simp only [nbitsOf]
    rw [ih (by omega), Nat.testBit_two_pow_mul_add a hw i, if_pos (by omega)]

theorem nbitsOf_valOf : ∀ (bs : List Bool), nbitsOf (valOf bs 0) bs.length = bs := by
  intro bs
  induction bs with
  | nil => rfl
  | cons b bs ih =>
    simp only [valOf, List.length_cons, nbitsOf]
    rw [valOf_eq]
    have hlt := valOf_lt bs
    have e : (0 * 2 + if b = true then 1 else 0) * 2 ^ bs.length + valOf bs 0
        = 2 ^ bs.length * (if b = true then 1 else 0) + valOf bs 0 := by
      rw [Nat.zero_mul, Nat.zero_add, Nat.mul_comm]
    rw [e, Nat.testBit_two_pow_mul_add _ hlt, if_neg (by omega), Nat.sub_self,
      nbitsOf_low _ _ _ hlt _ (Nat.le_refl _), ih]
    cases b <;> simp

theorem readNbitsLoop_spec : ∀ (n : Nat) (all : List Bool) (pos acc v : Nat) (r' : Reader),
    Reader.readNbitsLoop n { all := all, pos := pos } acc = .ok (v, r') →
    v = valOf ((all.drop pos).take n) acc ∧ ((all.drop pos).take n).length = n ∧ r' = { all := all, pos := pos + n } := by
  intro n
  induction n with
  | zero => intro all pos acc v r' h; simp [Reader.readNbitsLoop] at h; obtain ⟨h1, h2⟩ := h; subst h1 h2; simp [valOf]
  | succ n ih =>
    intro all pos acc v r' h
    simp only [Reader.readNbitsLoop, Reader.readBit, Reader.rawBit, bind, Except.bind] at h
    cases hg : all[pos]? with
    | none => rw [hg] at h; cases h
    | some b =>
      rw [hg] at h; simp only at h
      obtain ⟨i1, i2, i3⟩ := ih all (pos + 1) _ v r' h
      obtain ⟨hlt, hb⟩ := List.getElem?_eq_some_iff.1 hg
      rw [List.drop_eq_getElem_cons hlt, List.take_succ_cons, hb]
      refine ⟨by simpa [valOf] using i1, by simp [i2], by rw [i3]; congr 1; omega⟩

/-- `read_nbits` is canonical: the `n` bits consumed are what `write_nbits` writes for the value read -/
theorem nbits_complete (n : Nat) (bits : List Bool) (x : Nat) (r' : Reader)
    (h : ({ all := bits, pos := 0 } : Reader).readNbits n = .ok (x, r')) :
    ∃ used, (match ({} : Writer).writeNbits n x with | .ok w => some w.out | .error _ => none) = some used ∧
      bits = used ++ bits.drop r'.pos := by
  unfold Reader.readNbits at h
  simp only [Int.toNat_natCast] at h
  obtain ⟨hx, h2, h3⟩ := readNbitsLoop_spec n bits 0 0 x r' h
  simp only [List.drop_zero] at hx h2
  have hlt : x < 2 ^ n := by rw [hx]; have := valOf_lt (bits.take n); rwa [h2] at this
  have hfit : bitLength (x : Int) ≤ n := by
    unfold bitLength
    by_cases h0 : (x : Int) = 0
    · simp [h0]
    · simp only [h0, if_false]
      have hx0 : x ≠ 0 := by omega
      have : Nat.log2 x < n := (Nat.log2_lt hx0).2 hlt
      have e : (x : Int).natAbs = x := by omega
      rw [e]; omega
  refine ⟨bits.take n, ?_, by rw [h3]; simp⟩
  unfold Writer.writeNbits
  have : ¬ ((x : Int) < 0 ∨ bitLength (x : Int) > (n : Int)) := by omega
  simp only [this, if_false, Int.toNat_natCast]
  rw [VC2.Proofs.BitIO.writeBits_free (nbitsOf x n) ({} : Writer) rfl]
  have := nbitsOf_valOf (bits.take n)
  rw [h2] at this
  simp only [List.nil_append, hx, this]

/-- `read_bitarray` is canonical -/
theorem bitarray_complete (n : Nat) (bits l : List Bool) (r' : Reader)
    (h : Reader.readBits n { all := bits, pos := 0 } = .ok (l, r')) :
    l.length = n ∧ ({} : Writer).writeBitarray n l = .ok { out := l } ∧ bits = l ++ bits.drop r'.pos := by
  obtain ⟨i1, i2, i3⟩ := readBits_spec n bits 0 l r' h
  have hw := (VC2.Props.C20.bitarray_roundtrip n l (by omega) [] []).1
  simp only [i2, Nat.sub_self, List.replicate_zero, List.append_nil] at hw
  exact ⟨i2, hw, by rw [i3, i1]; simp⟩

theorem bitCodec_complete_bool : CompleteAt bitCodec .bool := by
  intro bits v rest h
  simp only [bitCodec, decBits, Reader.readBit, Reader.rawBit] at h
  cases bits with
  | nil => simp at h
  | cons x xs =>
    simp at h
    obtain ⟨rfl, rfl⟩ := h
    exact ⟨[x], by simp [bitCodec, encBits, Writer.writeBit], rfl⟩

theorem bitCodec_complete_nbits (n : Nat) : CompleteAt bitCodec (.nbits n) := by
  intro bits v rest h
  simp only [bitCodec, decBits] at h
  split at h <;> cases h
  exact nbits_complete n bits _ _ ‹_›

theorem bitCodec_complete_uintLit (n : Nat) : CompleteAt bitCodec (.uintLit n) := by
  intro bits v rest h
  simp only [bitCodec, decBits] at h
  split at h <;> cases h
  exact nbits_complete (8 * n) bits _ _ ‹_›

theorem bitCodec_complete_bitarray (n : Nat) : CompleteAt bitCodec (.bitarray n) := by
  intro bits v rest h
  simp only [bitCodec, decBits] at h
  split at h <;> cases h
  obtain ⟨hl, hw, hb⟩ := bitarray_complete n bits _ _ ‹_›
  exact ⟨_, by simp only [bitCodec, encBits, hl, if_true, hw], hb⟩

theorem bitCodec_complete_bytes (n : Nat) : CompleteAt bitCodec (.bytes n) := by
  intro bits v rest h
  simp only [bitCodec, decBits] at h
  split at h <;> cases h
  obtain ⟨hl, hw, hb⟩ := bitarray_complete (8 * n) bits _ _ ‹_›
  exact ⟨_, by simp only [bitCodec, encBits, hl, if_true, hw], hb⟩

end VC2.Proofs.Serdes
