/- Canonicity of the interleaved exp-Golomb codes (C06): whatever bits `read_uint` / `read_sint`
   consume, `write_uint` / `write_sint` of the value read writes exactly those bits. -/
import VC2.Proofs.SerdesComplete
namespace VC2.Proofs.Serdes
open VC2 VC2.Model.Serdes VC2.Model.BitIO VC2.Proofs.BitIO

/-- the loop of `read_uint`, read backwards: the bits it consumed are the interleaved code of the
    value it returns, whose leading part is the accumulator it started from -/
theorem readUintLoop_canon : ∀ (fuel : Nat) (all : List Bool) (pos acc v : Nat) (r' : Reader),
    Reader.readUintLoop fuel ⟨all, pos, none⟩ acc = .ok (v, r') →
    ∃ j suf, v / 2 ^ j = acc ∧ all.drop pos = encPairs v j ++ true :: suf ∧
      r' = ⟨all, pos + (2 * j + 1), none⟩ := by
  intro fuel
  induction fuel with
  | zero => intro all pos acc v r' h; cases h
  | succ fuel ih =>
    intro all pos acc v r' h
    simp only [Reader.readUintLoop, readBit_none, bind, Except.bind] at h
    -- the first bit: 1 ends the code, 0 announces a data bit
    cases h0 : all.drop pos with
    | nil => rw [h0] at h; cases h
    | cons b s =>
      rw [h0] at h
      cases b with
      | true => cases h; exact ⟨0, s, Nat.div_one _, rfl, rfl⟩
      | false =>
        have h1 := drop_succ_of_eq_cons h0
        simp only [Bool.false_eq_true, if_false, readBit_none, h1] at h
        cases s with
        | nil => cases h
        | cons b2 s2 =>
          obtain ⟨j, suf, hdiv, hs, hr⟩ := ih all (pos + 1 + 1) _ v r' h
          obtain ⟨hacc, hbit⟩ := (shift_step_iff v j acc b2).1 hdiv
          rw [drop_succ_of_eq_cons h1] at hs
          exact ⟨j + 1, suf, hacc, by simp only [encPairs, hbit, hs, List.cons_append],
            by rw [hr]; congr 1; omega⟩

/-- `read_uint` is canonical -/
theorem readUint_canon (all : List Bool) (pos : Nat) (x : Int) (r' : Reader)
    (h : Reader.readUint ⟨all, pos, none⟩ = .ok (x, r')) :
    ∃ (n : Nat) (suf : List Bool), x = n ∧ all.drop pos = encodeUint n ++ suf ∧
      r' = ⟨all, pos + (encodeUint n).length, none⟩ := by
  simp only [Reader.readUint, bind, Except.bind] at h
  cases hl : Reader.readUintLoop (Reader.fuel ⟨all, pos, none⟩) ⟨all, pos, none⟩ 1 with
  | error e => rw [hl] at h; cases h
  | ok q =>
    obtain ⟨v, r1⟩ := q
    rw [hl] at h; cases h
    obtain ⟨j, suf, hdiv, hs, hr⟩ := readUintLoop_canon _ all pos 1 v r1 hl
    obtain ⟨hv1, hlog⟩ := (div_pow_eq_one_iff v j).1 hdiv
    have hv : v - 1 + 1 = v := by omega
    have henc : encodeUint (v - 1) = encPairs v j ++ [true] := by
      rw [encodeUint, hv, hlog]
    refine ⟨v - 1, suf, by omega, by rw [henc, hs, List.append_assoc]; rfl, ?_⟩
    rw [hr, henc, List.length_append, encPairs_length]; rfl

/-- `read_sint` is canonical -/
theorem readSint_canon (all : List Bool) (pos : Nat) (x : Int) (r' : Reader)
    (h : Reader.readSint ⟨all, pos, none⟩ = .ok (x, r')) :
    ∃ suf, all.drop pos = encodeSint x ++ suf ∧ r' = ⟨all, pos + (encodeSint x).length, none⟩ := by
  simp only [Reader.readSint, bind, Except.bind] at h
  cases hu : Reader.readUint ⟨all, pos, none⟩ with
  | error e => rw [hu] at h; cases h
  | ok q =>
    obtain ⟨u, r1⟩ := q
    rw [hu] at h
    obtain ⟨n, suf, rfl, hs, rfl⟩ := readUint_canon all pos u r1 hu
    by_cases hn : n = 0
    · subst hn
      cases h
      exact ⟨suf, by simpa [encodeSint] using hs, by simp [encodeSint]⟩
    · -- the sign bit follows the magnitude
      have h1 := drop_add_of_eq_append hs
      simp only [ne_eq, Int.natCast_eq_zero, hn, not_false_eq_true, if_true, readBit_none, h1] at h
      cases suf with
      | nil => cases h
      | cons b s =>
        cases h
        have hx : (if b = true then -(n : Int) else n).natAbs = n := by cases b <;> simp
        have h0 : (if b = true then -(n : Int) else n) ≠ 0 := by cases b <;> simp <;> omega
        have hb : decide ((if b = true then -(n : Int) else n) < 0) = b := by cases b <;> simp; omega
        simp only [encodeSint, hx, h0, hb, if_false, List.length_append, List.length_singleton,
          List.append_assoc, List.singleton_append, Nat.add_assoc]
        exact ⟨s, hs, trivial⟩

theorem writeUint_fresh (x : Nat) :
    (({} : Writer).writeUint (x : Int)) = .ok { out := encodeUint x, rem := none } := by
  simpa using writeUint_free x {} rfl

theorem writeSint_fresh (x : Int) :
    (({} : Writer).writeSint x) = .ok { out := encodeSint x, rem := none } := by
  simpa using writeSint_free x {} rfl

theorem bitCodec_complete_uint : CompleteAt bitCodec .uint := by
  intro bits v rest h
  simp only [bitCodec, decBits] at h
  split at h
  · rename_i x r' hr
    cases h
    obtain ⟨n, suf, rfl, hs, rfl⟩ := readUint_canon bits 0 x r' hr
    exact ⟨encodeUint n, by simp only [bitCodec, encBits, writeUint_fresh],
      by rw [drop_add_of_eq_append hs]; exact hs⟩
  · cases h

theorem bitCodec_complete_sint : CompleteAt bitCodec .sint := by
  intro bits v rest h
  simp only [bitCodec, decBits] at h
  split at h
  · rename_i x r' hr
    cases h
    obtain ⟨suf, hs, rfl⟩ := readSint_canon bits 0 x r' hr
    exact ⟨encodeSint x, by simp only [bitCodec, encBits, writeSint_fresh],
      by rw [drop_add_of_eq_append hs]; exact hs⟩
  · cases h

end VC2.Proofs.Serdes
