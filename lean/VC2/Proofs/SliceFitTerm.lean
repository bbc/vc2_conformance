/- The quantisation-index search of `quantize_to_fit` terminates (C14): from some index on, every
   coefficient is quantised to zero, zero coefficients cost no bits, and nothing fits better. -/
import VC2.Proofs.SliceFit
import VC2.Proofs.Quant
namespace VC2.Proofs.SliceFit
open VC2 VC2.Gen VC2.Model.SliceFit VC2.Proofs.Quant

/-- a coefficient smaller than `2^(i // 4)` is quantised to zero by index `i` -/
theorem forward_quant_zero (v i : Int) (h : (v.natAbs : Int) < pypow 2 (i / 4)) : forward_quant v i = 0 := by
  have hq := quant_factor_ge_base i
  by_cases hv : 0 ≤ v
  · rw [forward_quant_nonneg v i hv]
    have : (v.natAbs : Int) = v := by omega
    exact Int.ediv_eq_zero_of_lt (by omega) (by omega)
  · rw [forward_quant_neg v i (by omega)]
    have : (v.natAbs : Int) = -v := by omega
    rw [Int.ediv_eq_zero_of_lt (by omega) (by omega)]; rfl

theorem natAbs_lt_pypow (v : Int) (k : Int) (hk : (v.natAbs : Int) ≤ k) : (v.natAbs : Int) < pypow 2 k := by
  have h1 : (v.natAbs : Int) < 2 ^ v.natAbs := by exact_mod_cast (Nat.lt_two_pow_self : v.natAbs < 2 ^ v.natAbs)
  exact Int.lt_of_lt_of_le h1 (le_pypow_two _ k hk)

/-- from this index on, every coefficient of the component is quantised to zero -/
def compBound : List Int → List Int → Int
  | v :: vs, m :: ms => pymax (m + 4 * v.natAbs) (compBound vs ms)
  | _, _ => 0

theorem compBound_nonneg : ∀ (vs ms : List Int), 0 ≤ compBound vs ms
  | [], _ => by simp [compBound]
  | _ :: _, [] => by simp [compBound]
  | v :: vs, m :: ms => by
    exact Int.le_trans (compBound_nonneg vs ms) (le_pymax_right _ _)

theorem quantize_all_zero : ∀ (vs ms : List Int) (q : Int), compBound vs ms ≤ q →
    ∀ x ∈ List.zipWith (fun v m => forward_quant v (pymax 0 (q - m))) vs ms, x = 0
  | [], _, _, _ => by simp
  | _ :: _, [], _, _ => by simp
  | v :: vs, m :: ms, q, h => by
    simp only [compBound] at h
    have h1 : m + 4 * (v.natAbs : Int) ≤ q := Int.le_trans (le_pymax_left _ _) h
    have h2 : compBound vs ms ≤ q := Int.le_trans (le_pymax_right _ _) h
    intro x hx
    simp only [List.zipWith_cons_cons, List.mem_cons] at hx
    rcases hx with hx | hx
    · rw [hx]
      apply forward_quant_zero
      apply natAbs_lt_pypow
      have := le_pymax_right 0 (q - m)
      omega
    · exact quantize_all_zero vs ms q h2 x hx

theorem dropWhile_all (l : List Int) (h : ∀ x ∈ l, x = 0) : l.dropWhile (· == 0) = [] := by
  induction l with
  | nil => rfl
  | cons a as ih =>
    have ha : a = 0 := h a List.mem_cons_self
    rw [List.dropWhile_cons, ha]
    simp only [beq_self_eq_true, if_true]
    exact ih (fun x hx => h x (List.mem_cons_of_mem _ hx))

theorem strip_all_zero (l : List Int) (h : ∀ x ∈ l, x = 0) : stripTrailingZeros l = [] := by
  unfold stripTrailingZeros
  rw [dropWhile_all l.reverse (fun x hx => h x (List.mem_reverse.1 hx))]; rfl

theorem coeffsBits_all_zero (l : List Int) (h : ∀ x ∈ l, x = 0) : coeffsBits l = 0 := by
  unfold coeffsBits; rw [strip_all_zero l h]; rfl

def setsBound : List Comp → Int
  | [] => 0
  | c :: cs => pymax (compBound c.vals c.qm) (setsBound cs)

theorem totalLength_zero (align : Int) (ha : 1 ≤ align) : ∀ (sets : List Comp) (q : Int), setsBound sets ≤ q →
    totalLength q sets align = 0
  | [], q, _ => by simp [totalLength]
  | c :: cs, q, h => by
    simp only [setsBound] at h
    have h1 : compBound c.vals c.qm ≤ q := Int.le_trans (le_pymax_left _ _) h
    have h2 : setsBound cs ≤ q := Int.le_trans (le_pymax_right _ _) h
    have hz : coeffsBits (quantizeCoeffs q c) = 0 :=
      coeffsBits_all_zero _ (quantize_all_zero c.vals c.qm q h1)
    rw [totalLength_cons, totalLength_zero align ha cs q h2, hz, pydiv_pos _ _ (by omega),
      Int.ediv_eq_zero_of_lt (by omega) (by omega), Int.zero_mul, Int.add_zero]

/-- **the index search terminates**: for every non-negative target and alignment ≥ 1 there is an index
    from which on everything fits, so `quantize_to_fit` returns after finitely many candidates -/
theorem qtf_terminates (target : Int) (sets : List Comp) (align : Int) (ht : 0 ≤ target) (ha : 1 ≤ align) (q0 : Int) :
    ∃ q, quantizeToFit target sets align ((pymax q0 (setsBound sets) - q0).toNat + 1) q0 = some q := by
  have h0 := le_pymax_left q0 (setsBound sets)
  have hfit : fits target sets align (pymax q0 (setsBound sets)) = true := by
    unfold fits
    rw [totalLength_zero align ha sets _ (le_pymax_right _ _)]
    simpa using ht
  exact qtf_finds target sets align _ q0 _ h0 (by omega) hfit

end VC2.Proofs.SliceFit
