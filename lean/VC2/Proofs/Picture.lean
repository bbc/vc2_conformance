/- Helper lemmas for C04/C09: DC prediction inverse, offset and clip.  Core Lean only. -/
import VC2.Model.Picture
import VC2.Prelude
namespace VC2.Proofs.Picture
open VC2 VC2.Model.Picture


theorem upd_same (f : Arr) (y x : Nat) (v : Int) : upd f y x v y x = v := if_pos ⟨rfl, rfl⟩

theorem upd_upd (f : Arr) (y x : Nat) (u v : Int) : upd (upd f y x u) y x v = upd f y x v := by
  funext y' x'; unfold upd; split <;> rfl

theorem upd_self (f : Arr) (y x : Nat) : upd f y x (f y x) = f := by
  funext y' x'; unfold upd; split
  · next h => rw [h.1, h.2]
  · rfl

/-- the prediction at (y, x) reads only positions before (y, x) in raster order, never (y, x) itself -/
theorem pred_upd_self (f : Arr) (y x : Nat) (v : Int) : pred (upd f y x v) y x = pred f y x := by
  have h1 : 0 < x → ∀ y', upd f y x v y' (x - 1) = f y' (x - 1) := fun hx y' =>
    if_neg (fun h => Nat.ne_of_lt (Nat.sub_one_lt (Nat.ne_of_gt hx)) h.2)
  have h2 : 0 < y → ∀ x', upd f y x v (y - 1) x' = f (y - 1) x' := fun hy x' =>
    if_neg (fun h => Nat.ne_of_lt (Nat.sub_one_lt (Nat.ne_of_gt hy)) h.1)
  unfold pred
  split
  · next h => rw [h1 h.1, h1 h.1, h2 h.2]
  · split
    · next h => rw [h1 h.1]
    · split
      · next h => rw [h2 h.2]
      · rfl

/-- the decoder's step at a position undoes the encoder's step at that position -/
theorem decStep_encStep (f : Arr) (y x : Nat) : decStep (encStep f y x) y x = f := by
  simp only [decStep, encStep, upd_same, pred_upd_self, upd_upd, Int.sub_add_cancel, upd_self]

/-- the encoder runs through a row from right to left, the decoder from left to right: the steps
    cancel from the inside out -/
theorem decRow_encRow (y : Nat) : ∀ (n : Nat) (f : Arr), decRow y n (encRow y n f) = f
  | 0, _ => rfl
  | n + 1, f => by rw [encRow, decRow, decRow_encRow y n, decStep_encStep]

/-- and so do the rows (encoder bottom to top, decoder top to bottom) -/
theorem decRows_encRows (w : Nat) : ∀ (n : Nat) (f : Arr), decRows w n (encRows w n f) = f
  | 0, _ => rfl
  | n + 1, f => by rw [encRows, decRows, decRows_encRows w n, decRow_encRow]

/-- **DC prediction is undone exactly**: for every band (any width, height and integer contents)
    the decoder's dc_prediction applied to the encoder's apply_dc_prediction returns the band -/
theorem dcPrediction_applyDcPrediction (w h : Nat) (f : Arr) :
    ∀ y x, dcPrediction w h (applyDcPrediction w h f) y x = f y x := fun y x =>
  congrFun (congrFun (decRows_encRows w h f) y) x

/-! ### what the encoder's in-place loops compute, in closed form -/

/-- the prediction at (y, x) only reads positions strictly before (y, x) in raster order, in rows
    y and y-1: two arrays that agree there give the same prediction -/
theorem pred_congr (f g : Arr) (y x : Nat)
    (h1 : x > 0 → f y (x - 1) = g y (x - 1))
    (h2 : y > 0 → ∀ x', x' ≤ x → f (y - 1) x' = g (y - 1) x') : pred f y x = pred g y x := by
  unfold pred
  by_cases hx : x > 0 <;> by_cases hy : y > 0
  · simp only [hx, hy, and_self, if_true]
    rw [h1 hx, h2 hy (x - 1) (by omega), h2 hy x (Nat.le_refl _)]
  · have hy0 : y = 0 := by omega
    subst hy0
    simp only [hx, Nat.lt_irrefl, and_false, if_false, and_self, if_true]
    exact h1 hx
  · have hx0 : x = 0 := by omega
    subst hx0
    simp only [Nat.lt_irrefl, false_and, if_false, hy, and_self, if_true]
    exact h2 hy 0 (Nat.le_refl _)
  · simp [hx, hy]

/-- encoder, one row: positions x < n of row y hold `f - pred f`, everything else is untouched -/
theorem encRow_spec (y : Nat) : ∀ (n : Nat) (f : Arr) (y' x' : Nat),
    encRow y n f y' x' = if y' = y ∧ x' < n then f y' x' - pred f y' x' else f y' x' := by
  intro n
  induction n with
  | zero => intro f y' x'; simp [encRow]
  | succ n ih =>
    intro f y' x'
    simp only [encRow]
    rw [ih]
    by_cases hy : y' = y
    · subst hy
      by_cases hlt : x' < n
      · have hne : ¬ (y' = y' ∧ x' = n) := by omega
        simp only [hlt, and_self, if_true, show x' < n + 1 by omega]
        have hp : pred (encStep f y' n) y' x' = pred f y' x' := by
          apply pred_congr
          · intro _; simp [encStep, upd]; omega
          · intro hy0 x'' _; simp [encStep, upd]; omega
        rw [hp]; simp [encStep, upd]; intro h; omega
      · by_cases heq : x' = n
        · subst heq
          simp [encStep, upd]
        · have : ¬ x' < n + 1 := by omega
          simp [hlt, this, encStep, upd, heq]
    · simp [hy, encStep, upd]

/-- encoder, rows n-1 … 0 done: rows y < n hold `f - pred f` for x < w -/
theorem encRows_spec (w : Nat) : ∀ (n : Nat) (f : Arr) (y' x' : Nat),
    encRows w n f y' x' = if y' < n ∧ x' < w then f y' x' - pred f y' x' else f y' x' := by
  intro n
  induction n with
  | zero => intro f y' x'; simp [encRows]
  | succ n ih =>
    intro f y' x'
    simp only [encRows]
    rw [ih]
    by_cases hlt : y' < n
    · by_cases hx : x' < w
      · simp only [hlt, hx, and_self, if_true, show y' < n + 1 by omega]
        -- row n was processed first; rows y' < n only read rows y' and y'-1, both < n
        have hp : pred (encRow n w f) y' x' = pred f y' x' := by
          apply pred_congr
          · intro _; rw [encRow_spec]; have : ¬ (y' = n ∧ x' - 1 < w) := by omega
            simp [this]
          · intro _ x'' _; rw [encRow_spec]; have : ¬ (y' - 1 = n ∧ x'' < w) := by omega
            simp [this]
        rw [hp, encRow_spec]
        have : ¬ (y' = n ∧ x' < w) := by omega
        simp [this]
      · have h1 : ¬ (y' < n ∧ x' < w) := by omega
        have h2 : ¬ (y' < n + 1 ∧ x' < w) := by omega
        simp only [h1, h2, if_false]
        rw [encRow_spec]; have : ¬ (y' = n ∧ x' < w) := by omega
        simp [this]
    · have h1 : ¬ (y' < n ∧ x' < w) := by omega
      simp only [h1, if_false]
      rw [encRow_spec]
      by_cases h : y' = n ∧ x' < w
      · have : y' < n + 1 ∧ x' < w := by omega
        simp [h, this]
      · have : ¬ (y' < n + 1 ∧ x' < w) := by omega
        simp [h, this]

theorem half_pos (d : Nat) : 0 < half d := by unfold half; exact Int.pow_pos (by decide)

theorem two_half (d : Nat) (hd : 1 ≤ d) : (2 : Int) ^ d = 2 * half d := two_pow_pred d hd

/-- the generated `clip` kernel lands in `[lo, hi]` whenever that interval is not empty … -/
theorem gen_clip_range (v lo hi : Int) (h : lo ≤ hi) : lo ≤ VC2.Gen.clip v lo hi ∧ VC2.Gen.clip v lo hi ≤ hi := by
  unfold VC2.Gen.clip pymin pymax
  split <;> split <;> omega

/-- … and leaves what is inside alone -/
theorem gen_clip_of_mem (v lo hi : Int) (h1 : lo ≤ v) (h2 : v ≤ hi) : VC2.Gen.clip v lo hi = v := by
  unfold VC2.Gen.clip pymin pymax
  split <;> split <;> omega

theorem clip_in_range (d : Nat) (v : Int) (h1 : -(half d) ≤ v) (h2 : v ≤ half d - 1) : clipSample d v = v :=
  gen_clip_of_mem v _ _ h1 h2

theorem clip_range (d : Nat) (v : Int) : -(half d) ≤ clipSample d v ∧ clipSample d v ≤ half d - 1 :=
  gen_clip_range v _ _ (by have := half_pos d; omega)

end VC2.Proofs.Picture
