import VC2.Model.PictureShape
import VC2.Props.C22
import VC2.Proofs.SlicePad
namespace VC2.Proofs.PictureShape
open VC2 VC2.Model.PictureGen VC2.Model.PictureShape

/-! ### the numpy size rules, one equation each -/

theorem assignable_self (n : Nat) : assignable n n = true := by simp [assignable]

/-- `a[:hi]` within the axis has `hi` entries -/
theorem sliceLen_zero (n hi : Nat) (h : hi ≤ n) : sliceLen n 0 hi = hi := by
  simp only [sliceLen, Nat.zero_min, Nat.sub_zero, Nat.min_eq_left h]

/-- `a[lo:lo+len]` has `len` entries when that many are left after `lo` (none, when `lo` is beyond the end) -/
theorem sliceLen_add (n lo len : Nat) (h : len ≤ n - lo) : sliceLen n lo (lo + len) = len := by
  unfold sliceLen; omega

/-- numpy accepts a blit whose source and destination slices have equal lengths on both axes -/
theorem blit_of_eq (f : Fmt) (sprite : Shape) (sh px sx sw : Nat)
    (hrows : sliceLen f.height 0 sh = sliceLen sprite.1 0 sh)
    (hcols : sliceLen f.width px (px + sw) = sliceLen sprite.2 sx (sx + sw)) :
    blit f sprite sh px sx sw = some (f.height, f.width) := by
  simp only [blit, hrows, hcols, assignable_self, Bool.and_self, if_true]

/-- the sprite's top-left `min`-sized corner has as many rows in the frame as in the sprite -/
theorem corner_rows (n m : Nat) : sliceLen n 0 (min n m) = sliceLen m 0 (min n m) :=
  (sliceLen_zero _ _ (Nat.min_le_left n m)).trans (sliceLen_zero _ _ (Nat.min_le_right n m)).symm

/-- `moving_sprite` clips the blitted width `c` at the right edge: what is left fits both the frame
    after `px` and the sprite -/
theorem movingFrame_ok (f : Fmt) (sprite : Shape) (px : Nat) : movingFrame f sprite px = some (f.height, f.width) := by
  have hc : min f.width sprite.2 ≤ sprite.2 := Nat.min_le_right _ _
  generalize hsw : (if px + min f.width sprite.2 > f.width then f.width - px else min f.width sprite.2) = sw
  have h1 : sw ≤ f.width - px := by rw [← hsw]; split <;> omega
  have h2 : sw ≤ sprite.2 - 0 := by rw [← hsw]; split <;> omega
  simp only [movingFrame, hsw]
  exact blit_of_eq f sprite _ px 0 sw (corner_rows _ _) ((sliceLen_add _ _ _ h1).trans (sliceLen_add _ _ _ h2).symm)

theorem static_blit_ok (f : Fmt) (sprite : Shape) :
    blit f sprite (min f.height sprite.1) 0 0 (min f.width sprite.2) = some (f.height, f.width) :=
  blit_of_eq f sprite _ 0 0 _ (corner_rows _ _) (by rw [Nat.zero_add]; exact corner_rows _ _)

theorem ramps_rows (h : Nat) : sliceLen (4 * ((h + 3) / 4)) 0 h = h :=
  sliceLen_zero _ h (by omega)

/-- both `[0::2]` and `[1::2]` of an even axis fit its half -/
theorem halves_assignable (n : Nat) (he : n % 2 = 0) :
    (assignable (n / 2) (everyOther n 0) && assignable (n / 2) (everyOther n 1)) = true := by
  rw [VC2.Props.C22.everyOther_even n 0 he (by omega), VC2.Props.C22.everyOther_even n 1 he (by omega),
    assignable_self]; rfl

/-- `from_444` on a plane whose subsampled axes are even -/
theorem from444_even (cdf h w : Nat) (hc : cdf ≤ 2) (hw : cdf ≠ 0 → w % 2 = 0) (hh : cdf = 2 → h % 2 = 0) :
    from444 cdf (h, w) = some (if cdf = 2 then h / 2 else h, if cdf = 0 then w else w / 2) := by
  obtain rfl | rfl | rfl : cdf = 0 ∨ cdf = 1 ∨ cdf = 2 := by omega
  · rfl
  · simp [from444, halves_assignable w (hw (by decide))]
  · simp [from444, halves_assignable w (hw (by decide)), halves_assignable h (hh rfl)]

/-! ### the coded size -/

/-- the generated `picture_dimensions`, field by field, for any state and video parameters -/
theorem picture_dimensions_eq (st : VC2.Gen.St) (vp : VC2.Gen.VP) :
    let r := VC2.Gen.picture_dimensions st vp
    let ch := if vp.color_diff_format_index = 2 then pydiv vp.frame_height 2 else vp.frame_height
    r.luma_width = vp.frame_width ∧
    r.luma_height = (if st.picture_coding_mode = 1 then pydiv vp.frame_height 2 else vp.frame_height) ∧
    r.color_diff_width = (if vp.color_diff_format_index = 1 ∨ vp.color_diff_format_index = 2
      then pydiv vp.frame_width 2 else vp.frame_width) ∧
    r.color_diff_height = (if st.picture_coding_mode = 1 then pydiv ch 2 else ch) := by
  unfold VC2.Gen.picture_dimensions
  by_cases h1 : vp.color_diff_format_index = 1 <;> by_cases h2 : vp.color_diff_format_index = 2 <;>
    by_cases h3 : st.picture_coding_mode = 1 <;> simp [h1, h2, h3]

def codedRows (f : Fmt) : Nat := if f.fields then f.height / 2 else f.height

theorem pydiv_two_natCast (n : Nat) : pydiv (n : Int) 2 = ((n / 2 : Nat) : Int) := by
  rw [pydiv_pos _ _ (by decide)]; rfl

theorem codedShape_eq (f : Fmt) (hc : f.cdf ≤ 2) :
    codedShape f =
      { y := (codedRows f, f.width),
        c1 := (if f.cdf = 2 then codedRows f / 2 else codedRows f, if f.cdf = 0 then f.width else f.width / 2),
        c2 := (if f.cdf = 2 then codedRows f / 2 else codedRows f, if f.cdf = 0 then f.width else f.width / 2) } := by
  obtain ⟨e1, e2, e3, e4⟩ := picture_dimensions_eq
    { (default : VC2.Gen.St) with picture_coding_mode := if f.fields then 1 else 0 }
    { (default : VC2.Gen.VP) with frame_width := f.width, frame_height := f.height, color_diff_format_index := f.cdf }
  simp only [codedShape, codedState, e1, e2, e3, e4, codedRows]
  obtain h | h | h : f.cdf = 0 ∨ f.cdf = 1 ∨ f.cdf = 2 := by omega
  all_goals cases hf : f.fields <;> simp [h, pydiv_two_natCast, -Int.natCast_ediv]

theorem even_of_mod_mul_two (h c : Nat) (hh : h % (c * 2) = 0) : h % 2 = 0 := by
  rw [← Nat.mod_mul_left_mod h c 2, hh]

/-- what `Regular` says about the rows: frames that are split into fields have an even height … -/
theorem height_even {f : Fmt} (hr : Regular f) (h : (f.interlaced || f.fields) = true) :
    f.height % 2 = 0 := by
  have hh := hr.2.2
  rw [h, if_pos rfl] at hh
  exact even_of_mod_mul_two _ _ hh

/-- … and the coded rows are even wherever `from_444` halves them -/
theorem codedRows_even (f : Fmt) (hr : Regular f) (h2 : f.cdf = 2) : codedRows f % 2 = 0 := by
  have hh := hr.2.2
  rw [if_pos h2] at hh
  unfold codedRows
  cases hf : f.fields
  · rw [if_neg Bool.false_ne_true, ← Nat.mod_mul_right_mod f.height 2 _, hh]
  · rw [hf, Bool.or_true, if_pos rfl] at hh
    rw [if_pos rfl]; omega

/-- a picture with the coded number of rows and the frame's width converts to exactly the coded shape -/
theorem toNative_coded (f : Fmt) (hr : Regular f) : toNative f (codedRows f, f.width) = some (codedShape f) := by
  have hw : f.cdf ≠ 0 → f.width % 2 = 0 := fun h => by have := hr.2.1; rwa [if_neg h] at this
  rw [codedShape_eq f hr.1, toNative, from444_even f.cdf _ _ hr.1 hw (codedRows_even f hr)]
  rfl

theorem mapM_const {α β : Type} (g : α → Option β) (c : β) :
    ∀ l : List α, (∀ a ∈ l, g a = some c) → l.mapM g = some (List.replicate l.length c)
  | [], _ => rfl
  | a :: l, h => by
    simp [List.mapM_cons, h a List.mem_cons_self, mapM_const g c l (fun b hb => h b (List.mem_cons_of_mem _ hb)),
      List.replicate_succ]

/-- frames of the frame's size, as many as `frames` frames' worth of samples, come out of the pipe as
    `frames` (or, for fields, `2·frames`) pictures of exactly the coded shape -/
theorem pipeline_regular (f : Fmt) (hr : Regular f) (frames : Nat) :
    pipeline f (some (List.replicate (framesToSamples f.interlaced frames) (f.height, f.width))) =
      some (List.replicate (if f.fields then 2 * frames else frames) (codedShape f)) := by
  simp only [pipeline, framesToPictures, Option.bind_some, List.map_replicate,
    VC2.Props.C22.pictures_count_and_height f.fields f.interlaced f.tff frames f.height (height_even hr),
    Option.map_some, Option.bind_some]
  rw [mapM_const _ (codedShape f) _ (fun a ha => List.eq_of_mem_replicate ha ▸ toNative_coded f hr),
    List.length_replicate]

theorem generate_regular (g : Generator) (f : Fmt) (hr : Regular f) (hs : (spriteShape f).isSome) :
    generate g f = some (List.replicate (if f.fields then 2 * framesDrawn g else framesDrawn g) (codedShape f)) := by
  obtain ⟨sprite, hsp⟩ := Option.isSome_iff_exists.mp hs
  cases g with
  | movingSprite n =>
    simp only [generate, movingSpriteFrames, hsp, framesDrawn]
    rw [mapM_const _ (f.height, f.width) _ (fun k _ => movingFrame_ok f sprite _), List.length_range]
    exact pipeline_regular f hr n
  | staticSprite =>
    simp only [generate, staticSpriteFrames, hsp, framesDrawn, static_blit_ok, Option.map_some]
    exact pipeline_regular f hr 1
  | linearRamps =>
    simp only [generate, linearRampsFrames, framesDrawn, ramps_rows]
    exact pipeline_regular f hr 1
  | midGray => simp [generate, framesDrawn]
  | whiteNoise n => simp [generate, framesDrawn, Nat.mul_comm]


/-! ### sample values -/

theorem depth_pos (exc : Nat) (h : 1 ≤ exc) : 1 ≤ depthOf exc := by
  unfold depthOf
  obtain ⟨k, hk, _, _, h2⟩ := VC2.Proofs.SlicePad.intlog2_facts (exc + 1) (by omega)
  have := h2 (by omega)
  have e : ((exc : Int) + 1) = ((exc + 1 : Nat) : Int) := by omega
  rw [e, hk]; omega

end VC2.Proofs.PictureShape
