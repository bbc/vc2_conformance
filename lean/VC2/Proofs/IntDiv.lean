/-
  Floor and ceiling division, as facts about variables in the shape `omega` can use
  (products with the divisor distributed).  Core Lean only.
-/
import VC2.Prelude
namespace VC2

/-! floor: `a / b * b ≤ a < a / b * b + b` -/

theorem ediv_mul_le (a : Int) {b : Int} (hb : 0 < b) : a / b * b ≤ a :=
  Int.ediv_mul_le a (Int.ne_of_gt hb)

theorem lt_ediv_mul_add (a : Int) {b : Int} (hb : 0 < b) : a < a / b * b + b := by
  have := Int.lt_ediv_add_one_mul_self a hb
  rwa [Int.add_mul, Int.one_mul] at this

/-- adding at most `c` divisors raises the quotient by at most `c` -/
theorem add_ediv_le (a n c : Int) {d : Int} (hd : 0 < d) (h : n ≤ c * d) : (a + n) / d ≤ a / d + c := by
  have := Int.ediv_le_ediv hd (show a + n ≤ a + c * d by omega)
  rwa [Int.add_mul_ediv_right _ _ (Int.ne_of_gt hd)] at this

/-! ceiling `(a + b - 1) // b`: `a ≤ ⌈a/b⌉ * b < a + b` -/

theorem ceil_mul_ge (a : Int) {b : Int} (hb : 0 < b) : a ≤ pydiv (a + b - 1) b * b := by
  rw [pydiv_pos _ _ hb]
  have := lt_ediv_mul_add (a + b - 1) hb
  omega

theorem ceil_mul_lt (a : Int) {b : Int} (hb : 0 < b) : pydiv (a + b - 1) b * b < a + b := by
  rw [pydiv_pos _ _ hb]
  have := ediv_mul_le (a + b - 1) hb
  omega

theorem ceil_le (a c : Int) {b : Int} (hb : 0 < b) (h : a ≤ c * b) : pydiv (a + b - 1) b ≤ c := by
  rw [pydiv_pos _ _ hb]
  exact Int.le_of_lt_add_one (Int.ediv_lt_of_lt_mul hb (by rw [Int.add_mul]; omega))

theorem ceil_nonneg (a : Int) {b : Int} (hb : 0 < b) (ha : 0 ≤ a) : 0 ≤ pydiv (a + b - 1) b := by
  rw [pydiv_pos _ _ hb]
  exact Int.ediv_nonneg (by omega) (by omega)

end VC2
