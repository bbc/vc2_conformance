/-
  Python-semantics helpers used by the generated definitions (T1) and by the
  hand-written models.  Core Lean only (the driver executable links against this).
-/
namespace VC2

/-- Python `//` on ints (floor division). -/
@[inline] def pydiv (a b : Int) : Int := Int.fdiv a b
/-- Python `%` on ints (sign of the divisor). -/
@[inline] def pymod (a b : Int) : Int := Int.fmod a b
/-- Python `a << n` for `n ≥ 0` (the generated `_ok` predicate demands `n ≥ 0`). -/
@[inline] def shl (a n : Int) : Int := a * 2 ^ n.toNat
/-- Python `a >> n` for `n ≥ 0` (floor shift). -/
@[inline] def shr (a n : Int) : Int := Int.fdiv a (2 ^ n.toNat)
/-- Python `a ** n` for `n ≥ 0`. -/
@[inline] def pypow (a n : Int) : Int := a ^ n.toNat
/-- Python `int.bit_length()`. -/
def bitLength (n : Int) : Int :=
  if n = 0 then 0 else (Nat.log2 n.natAbs + 1 : Nat)
/-- Python `abs`. -/
@[inline] def pyabs (a : Int) : Int := if a < 0 then -a else a
@[inline] def pymin (a b : Int) : Int := if b < a then b else a
@[inline] def pymax (a b : Int) : Int := if b > a then b else a

/-- Python `&` on ints (two's complement on negatives; `-(n+1) = ~n`). -/
def pyand : Int → Int → Int
  | .ofNat a, .ofNat b => (a &&& b : Nat)
  | .ofNat a, .negSucc m => (a - (a &&& m) : Nat)
  | .negSucc n, .ofNat b => (b - (b &&& n) : Nat)
  | .negSucc n, .negSucc m => .negSucc (n ||| m)
/-- Python `|` on ints. -/
def pyor : Int → Int → Int
  | .ofNat a, .ofNat b => (a ||| b : Nat)
  | .ofNat a, .negSucc m => .negSucc (m - (m &&& a))
  | .negSucc n, .ofNat b => .negSucc (n - (n &&& b))
  | .negSucc n, .negSucc m => .negSucc (n &&& m)
/-- Python `^` on ints. -/
def pyxor : Int → Int → Int
  | .ofNat a, .ofNat b => (a ^^^ b : Nat)
  | .ofNat a, .negSucc m => .negSucc (a ^^^ m)
  | .negSucc n, .ofNat b => .negSucc (n ^^^ b)
  | .negSucc n, .negSucc m => (n ^^^ m : Nat)

theorem le_pymax_left (a b : Int) : a ≤ pymax a b := by unfold pymax; split <;> omega
theorem le_pymax_right (a b : Int) : b ≤ pymax a b := by unfold pymax; split <;> omega
theorem pymax_le {a b c : Int} (ha : a ≤ c) (hb : b ≤ c) : pymax a b ≤ c := by
  unfold pymax; split <;> assumption
theorem pymax_eq_left (a b : Int) (h : b ≤ a) : pymax a b = a := if_neg (Int.not_lt.2 h)
theorem pymax_cases (a b : Int) : pymax a b = a ∨ pymax a b = b := by
  unfold pymax; split
  · exact Or.inr rfl
  · exact Or.inl rfl

theorem pydiv_pos (a b : Int) (h : 0 < b) : pydiv a b = a / b := by
  unfold pydiv; exact Int.fdiv_eq_ediv_of_nonneg a (Int.le_of_lt h)

theorem pymod_pos (a b : Int) (h : 0 < b) : pymod a b = a % b := by
  unfold pymod; exact Int.fmod_eq_emod_of_nonneg a (Int.le_of_lt h)

theorem pyabs_eq (a : Int) : pyabs a = (a.natAbs : Int) := by
  unfold pyabs; split <;> omega

theorem two_pow_pos (n : Nat) : (0 : Int) < 2 ^ n := by
  exact Int.pow_pos (by decide)

theorem two_pow_pred (n : Nat) (h : 0 < n) : (2 : Int) ^ n = 2 * 2 ^ (n - 1) := by
  obtain ⟨m, rfl⟩ : ∃ m, n = m + 1 := ⟨n - 1, by omega⟩
  rw [Int.pow_succ, Int.mul_comm]; rfl

theorem shl_one_pos (n : Int) : 0 < shl 1 n := by
  unfold shl; simpa using two_pow_pos n.toNat

theorem pypow_two_pos (n : Int) : 0 < pypow 2 n := two_pow_pos _

theorem pypow_two_succ (n : Int) (h : 0 ≤ n) : pypow 2 (n + 1) = 2 * pypow 2 n := by
  unfold pypow
  have : (n + 1).toNat = n.toNat + 1 := by omega
  rw [this, Int.pow_succ]; omega

end VC2
